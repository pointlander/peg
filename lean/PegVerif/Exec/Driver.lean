import Lean.Data.Json
import PegVerif.Exec.Front
import PegVerif.Model.Compile
import PegVerif.Model.Optimise
import PegVerif.Model.Header
import PegVerif.Model.WellFormed
import PegVerif.Model.Checkers
import PegVerif.Model.Machine
import PegVerif.Model.Sem
import PegVerif.Model.SwitchSafe
import PegVerif.Model.SafeDef
import PegVerif.Model.AllOptionsDef
/-
  `pegmodel emit`: one JSON request per line `{"id","tree":[…],"opts":"isn"-subset}` → one JSON
  line `{"id","rules":[{"nil":bool,"code":[…]}],"error"?}` with the IR the *model* generator
  emits, in the same textual form `harness/pegx/irx` extracts from the real generator's output.
-/
namespace PegVerif
open Lean

def optsOfString (s : String) : Opts :=
  { inline := s.contains 'i', switch := s.contains 's', ast := !s.contains 'n' }

def programJson (P : Program) : Json :=
  Json.arr (P.map (fun r =>
    match r.code with
    | none => Json.mkObj [("nil", true)]
    | some c => Json.mkObj [("nil", false), ("code", Json.arr (c.map (fun i => Json.str i.toLine)).toArray)])).toArray

def emitOne (line : String) : String :=
  match Json.parse line with
  | .error e => (Json.mkObj [("id", "?"), ("error", s!"bad json: {e}")]).compress
  | .ok j =>
    let id := (j.getObjValAs? String "id").toOption.getD "?"
    let res : Except String Json := do
      let tree ← j.getObjVal? "tree"
      let top ← match tree with
        | .arr a => pure a
        | _ => throw "tree is not an array"
      let fr ← frontOfJson top
      let o := optsOfString ((j.getObjValAs? String "opts").toOption.getD "")
      let L := linkGrammar fr.rules
      match L.dup with
      | some n => pure (Json.mkObj [("id", id), ("compileError", s!"rule '{n}' defined more than once")])
      | none =>
        match (if o.switch then optimise L.G else .ok L.G) with
        | .error e => pure (Json.mkObj [("id", id), ("optimiseError", e)])
        | .ok G' =>
          let P := compileAll o G'
          -- a case with no key is printed by the generator as `case '<nil>':`, which is not Go
          let nilCase := P.any (fun r => match r.code with
            | some c => c.any (fun i => match i with
              | .switchOn _ keys => keys.any (fun k => k.isEmpty)
              | _ => false)
            | none => false)
          -- a printed label that nothing in the same function jumps to is a Go compile error
          let unusedLabel := P.any (fun r => match r.code with
            | some c => c.any (fun i => match i with
              | .label l => !(jumps c).contains l
              | _ => false)
            | none => false)
          let h := headerModel o fr.imports fr.nTop fr.rules.length L.G
          let hj := Json.mkObj [("pegRuleType", h.pegRuleType),
            ("ruleNames", Json.arr (h.ruleNames.map Json.str).toArray), ("rulesLen", h.rulesLen),
            ("imports", Json.arr (h.imports.map Json.str).toArray), ("hasDot", h.hasDot),
            ("hasString", h.hasString), ("hasActions", h.hasActions), ("hasPush", h.hasPush),
            ("actions", Json.mkObj (L.actions.map (fun a => (a.1, Json.str a.2))))]
          -- the decidable hypotheses of C01_wellformed / C01_generated_parser on this grammar
          let hyps := Json.mkObj [("wfb", WFB L.G), ("grammarOK", GrammarOK L.G), ("linkedOK", LinkedOK L.G),
            ("plain", L.G.rules.all (fun r => r.body.plain))] |>.mergeObj
            -- -switch: the translation-validation check of `C02_switch_validated` (Eval-level equivalence
            -- of the optimiser's output with the original grammar)
            (if o.switch then Json.mkObj ([("swOK", Json.bool (swOK L.G G')), ("wfbSwitched", Json.bool (WFB G')),
                ("rewritten", Json.bool (G'.rules.any (fun r => r.body.hasNode (fun e => match e with | .ualt _ _ => true | _ => false))))] ++
                -- the hypothesis of the end-to-end theorem for THIS option set
                (if o.ast && !o.inline then [("grammarOKS", Json.bool (GrammarOKS G')), ("switchSafe", Json.bool (switchSafe L.G G'))]
                 -- (these two are evaluated in the cheap form of Model/FastCheckDef.lean, proved equal in
                 -- Proofs/FastCheck.lean: inlineSwitchSafeFast_eq, noastSwitchSafeKfast_eq)
                 else if o.ast && o.inline then [("inlineSwitchSafe", Json.bool (inlineSwitchSafeFast L.G G'))]
                 else if !o.ast && !o.inline then [("noastSwitchSafe", Json.bool (noastSwitchSafeKfast (Kall G') L.G G')),
                    -- the -noast fragment (no state-change statements, captures named PegText …) on the ORIGINAL grammar:
                    -- where that fails the -noast theorems do not apply with or without -switch
                    ("grammarOKN", Json.bool (GrammarOKN (Kall L.G) L.G))]
                 else if !o.ast && o.inline then [("inlineNoastSwitchSafe", Json.bool (inlineNoastSwitchSafe L.G G')),
                    ("grammarOKN", Json.bool (GrammarOKN (Kall L.G) L.G))]
                 else []))
             -- without -switch: the extra hypothesis of the option set's own theorem (C02_inline_same_as_default,
             -- C07_generated_parser, C07_inline_generated_parser)
             else Json.mkObj (
               if o.ast && o.inline then [("grammarOKI", Json.bool (GrammarOKIfast L.G))]  -- = GrammarOKI L.G (GrammarOKIfast_eq)
               else if !o.ast && !o.inline then [("grammarOKN", Json.bool (GrammarOKN (Kall L.G) L.G))]
               else if !o.ast && o.inline then [("inlineNoastSafe", Json.bool (inlineNoastSafe L.G)),
                    ("grammarOKN", Json.bool (GrammarOKN (Kall L.G) L.G))]
               else []))
          -- the hypothesis of the summary theorem `all_options_same_verdict` for THIS option set (evaluated on every
          -- program: `theoremApplies` runs the cheap checkers of Model/FastCheckDef.lean)
          let hyps := hyps.mergeObj (Json.mkObj [("theoremApplies", Json.bool (theoremApplies o L.G G'))])
          pure (Json.mkObj [("id", id), ("rules", programJson P), ("nilCase", nilCase),
            ("unusedLabel", unusedLabel), ("header", hj), ("hyps", hyps),
            ("ruleNames", Json.arr (L.G.rules.map (fun r => Json.str r.name)).toArray)])
    match res with
    | .ok v => v.compress
    | .error e => (Json.mkObj [("id", id), ("error", e)]).compress

partial def lineLoop (h : IO.FS.Stream) (out : IO.FS.Stream) (f : String → String) : IO Unit := do
  let line ← h.getLine
  if line.isEmpty then return ()
  let l := line.trimRight
  if !l.isEmpty then
    out.putStrLn (f l)
  lineLoop h out f

def emitMain : IO UInt32 := do
  let stdin ← IO.getStdin
  let stdout ← IO.getStdout
  lineLoop stdin stdout emitOne
  stdout.flush
  return 0

end PegVerif
