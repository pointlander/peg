import Lean
import PegVerif.Proofs.FrontNumbered
import PegVerif.Proofs.SemLemmas
/-
  Lemmas for C10 (the front end).

  `linkGrammar pegFrontRules` is expensive to normalise and the kernel would redo it at every use, so
  its VALUE is computed once at elaboration time by ordinary evaluation, turned into a literal
  (`pegLinked`; likewise `pegActs`, `pegTable`), and the kernel checks
  `linkGrammar pegFrontRules = pegLinked` by unfolding (`pegLinked_eq`).  Nothing is trusted: the
  evaluator only proposes the literal; what is checked is checked by the kernel's own evaluation
  (`kernel_rfl`), without `native_decide` and without axioms.

  After that, what C10 says of the model apart from evaluations: the builder (`Op.apply`: what each
  call builds, exactly when a call sequence panics), case folding with the check of the regenerated
  `unicode.CaseRanges`, `strconv.ParseInt` and the numeric escapes, and `frontCore` against `Eval`.
-/
namespace PegVerif
open Lean Elab Command Tactic

/-! ### literals and kernel evaluation -/

mutual
  def Expr.toLeanE : PegVerif.Expr → Lean.Expr
    | .dot => mkConst ``PegVerif.Expr.dot
    | .chr c => mkApp (mkConst ``PegVerif.Expr.chr) (mkNatLit c)
    | .rng a b => mkApp2 (mkConst ``PegVerif.Expr.rng) (mkNatLit a) (mkNatLit b)
    | .str s => mkApp (mkConst ``PegVerif.Expr.str) (toExpr s)
    | .name n => mkApp (mkConst ``PegVerif.Expr.name) (mkStrLit n)
    | .inl n e => mkApp2 (mkConst ``PegVerif.Expr.inl) (mkStrLit n) e.toLeanE
    | .pred c => mkApp (mkConst ``PegVerif.Expr.pred) (mkStrLit c)
    | .stmt c => mkApp (mkConst ``PegVerif.Expr.stmt) (mkStrLit c)
    | .act c => mkApp (mkConst ``PegVerif.Expr.act) (mkStrLit c)
    | .seq es => mkApp (mkConst ``PegVerif.Expr.seq) (Expr.toLeanL es)
    | .alt es => mkApp (mkConst ``PegVerif.Expr.alt) (Expr.toLeanL es)
    | .ualt ks es => mkApp2 (mkConst ``PegVerif.Expr.ualt) (toExpr ks) (Expr.toLeanL es)
    | .peekFor e => mkApp (mkConst ``PegVerif.Expr.peekFor) e.toLeanE
    | .peekNot e => mkApp (mkConst ``PegVerif.Expr.peekNot) e.toLeanE
    | .query e => mkApp (mkConst ``PegVerif.Expr.query) e.toLeanE
    | .star e => mkApp (mkConst ``PegVerif.Expr.star) e.toLeanE
    | .plus e => mkApp (mkConst ``PegVerif.Expr.plus) e.toLeanE
    | .push e r => mkApp2 (mkConst ``PegVerif.Expr.push) e.toLeanE (mkStrLit r)
    | .ipush e r => mkApp2 (mkConst ``PegVerif.Expr.ipush) e.toLeanE (mkStrLit r)
    | .nil => mkConst ``PegVerif.Expr.nil
  def Expr.toLeanL : List PegVerif.Expr → Lean.Expr
    | [] => mkApp (mkConst ``List.nil [Level.zero]) (mkConst ``PegVerif.Expr)
    | e :: es =>
      mkApp3 (mkConst ``List.cons [Level.zero]) (mkConst ``PegVerif.Expr) e.toLeanE (Expr.toLeanL es)
end

instance : ToExpr PegVerif.Expr where
  toExpr := Expr.toLeanE
  toTypeExpr := mkConst ``PegVerif.Expr
instance : ToExpr Rule where
  toExpr r := mkApp3 (mkConst ``PegVerif.Rule.mk) (mkStrLit r.name) (mkNatLit r.id) (toExpr r.body)
  toTypeExpr := mkConst ``PegVerif.Rule
instance : ToExpr Linked where
  toExpr L := mkApp4 (mkConst ``PegVerif.Linked.mk)
    (mkApp (mkConst ``PegVerif.Grammar.mk) (toExpr L.G.rules)) (toExpr L.actions) (toExpr L.dup)
    (toExpr L.referenced)
  toTypeExpr := mkConst ``PegVerif.Linked

/-- Close `a = b` with `Eq.refl a`; the KERNEL checks that `a` and `b` are definitionally equal
    when the theorem is added (the elaborator's slower check is skipped). -/
elab "kernel_rfl" : tactic => do
  let g ← getMainGoal
  let t ← g.getType'
  let some (α, a, _) := t.eq? | throwError "kernel_rfl: the goal is not an equality"
  let u ← Meta.getLevel α
  g.assign (mkApp2 (mkConst ``Eq.refl [u]) α a)

-- `pegLinked : Linked` := the value of `linkGrammar pegFrontRules`, as a literal.
#eval show CommandElabM Unit from do
  let v := toExpr (linkGrammar pegFrontRules)
  let d : DefinitionVal :=
    { name := `PegVerif.pegLinked
      levelParams := []
      type := mkConst ``Linked
      value := v
      hints := .abbrev
      safety := .safe }
  liftCoreM <| addDecl (.defnDecl d)

theorem pegLinked_eq : linkGrammar pegFrontRules = pegLinked := by kernel_rfl

deriving instance ToExpr for Arg
deriving instance ToExpr for Call

-- `pegActs`, `pegTable`: action names and parsed action code of `pegLinked`, as literals.
#eval show CommandElabM Unit from do
  let L := linkGrammar pegFrontRules
  let d1 : DefinitionVal :=
    { name := `PegVerif.pegActs
      levelParams := []
      type := toTypeExpr (List String)
      value := toExpr (L.actions.map (·.1))
      hints := .abbrev
      safety := .safe }
  liftCoreM <| addDecl (.defnDecl d1)
  let d2 : DefinitionVal :=
    { name := `PegVerif.pegTable
      levelParams := []
      type := toTypeExpr (List (String × Option (List Call)))
      value := toExpr (actionTable L)
      hints := .abbrev
      safety := .safe }
  liftCoreM <| addDecl (.defnDecl d2)

theorem pegActs_eq : pegLinked.actions.map (·.1) = pegActs := by kernel_rfl
theorem pegTable_eq : actionTable pegLinked = pegTable := by kernel_rfl
theorem pegLinked_nodup : pegLinked.dup.isSome = false := by kernel_rfl
theorem pegLinked_nopred : pegLinked.G.rules.any (fun r => r.body.hasPred) = false := by kernel_rfl

/-! The numbered form of `pegLinked` (Proofs/FrontNumbered.lean), on which tables and test texts are
    evaluated.  It is computed, so each evaluation numbers the rules it visits again (a few
    million kernel steps); `pegNumbered` is the one statement that it IS `pegLinked`. -/
noncomputable def pegNames : List String := pegLinked.G.names
noncomputable def pegBodies : List IExpr := bodiesOf pegLinked.G
noncomputable def pegKinds : List IKind := kindsOf pegActs pegTable pegLinked.G

theorem pegKeys_nodup : (pegLinked.G.names.map nameKey).Nodup := by decide +kernel
theorem pegBodies_roundtrip :
    pegLinked.G.rules.map (·.body) = (bodiesOf pegLinked.G).map (IExpr.toExpr pegLinked.G.names) := by
  kernel_rfl

theorem pegNumbered : Numbered pegNames pegBodies pegKinds pegLinked.G pegActs pegTable :=
  numbered_of pegActs pegTable pegKeys_nodup pegBodies_roundtrip

/-! ### the rules of peg.peg that the proofs name

    A rule's number is its position in `pegLinked.G.rules`: the rules of peg.peg in the order of the
    text, then those `linkGrammar` adds (the action rules `ActionN`, `PegText`) as it meets them.  The
    grammar is regenerated on every run; an edit of peg.peg that moves one of these rules is repaired
    HERE (the `rfl`s below say when, and so does every `kernel_rfl` on a body in Proofs/FrontHex.lean
    and Proofs/FrontFold.lean). -/

def rEntry : Nat := 0
def rChar : Nat := 20
def rDoubleChar : Nat := 21
def rEscape : Nat := 22
def rPegText : Nat := 55
def rCharAction : Nat := 82     -- of `Char` on a raw character: `p.AddCharacter(text)`
def rFoldAction : Nat := 83     -- of `DoubleChar`: `p.AddCaseFold()`
def rHexAction : Nat := 97      -- of the hex alternative of `Escape`: `p.AddHexaCharacter(text)`
/-- Position of the hex alternative among the alternatives of `Escape`. -/
def hexPos : Nat := 13

theorem nm_entry : nm pegNames rEntry = pegEntry := rfl
theorem nm_char : nm pegNames rChar = "Char" := rfl
theorem nm_doubleChar : nm pegNames rDoubleChar = "DoubleChar" := rfl
theorem nm_escape : nm pegNames rEscape = "Escape" := rfl
theorem nm_pegText : nm pegNames rPegText = "PegText" := rfl

/-- The action rules are only ever named through their numbers. -/
noncomputable def charAction : String := nm pegNames rCharAction
noncomputable def foldAction : String := nm pegNames rFoldAction
noncomputable def hexAction : String := nm pegNames rHexAction

theorem symsOf_ofList (cs : List Char) : symsOf (String.ofList cs) = cs.map Char.toNat := by
  simp [symsOf]

theorem frontModel_eq (text : List Sym) (fuel : Nat) :
    frontModel text fuel = frontCore pegLinked.G pegActs pegTable pegEntry text fuel := by
  unfold frontModel frontWith
  rw [pegLinked_eq, pegLinked_nodup, pegLinked_nopred, pegActs_eq, pegTable_eq]
  rfl

theorem frontChar_eq (sp : List Sym) :
    frontChar sp = frontCharCore pegLinked.G pegActs pegTable sp := by
  unfold frontChar
  simp only [pegLinked_eq, pegActs_eq, pegTable_eq]

/-! ### the builder -/

@[simp] theorem popFront_nil (n : Nat) (es : List (List Sym)) :
    BState.popFront ⟨[], n, es⟩ = .panic "tree is empty" := rfl
@[simp] theorem popFront_cons (a : Node) (r : List Node) (n : Nat) (es : List (List Sym)) :
    BState.popFront ⟨a :: r, n, es⟩ = .ok (a, ⟨r, n, es⟩) := rfl

mutual
  theorem Node.eq_of_beq : ∀ (a b : Node), Node.beq a b = true → a = b
    | .mk t s i ks, .mk t' s' i' ks', h => by
      simp only [Node.beq, Bool.and_eq_true, beq_iff_eq] at h
      obtain ⟨⟨⟨h1, h2⟩, h3⟩, h4⟩ := h
      rw [h1, h2, h3, Node.eqL_of_beqL ks ks' h4]
  theorem Node.eqL_of_beqL : ∀ (as bs : List Node), Node.beqL as bs = true → as = bs
    | [], [], _ => rfl
    | a :: as, b :: bs, h => by
      simp only [Node.beqL, Bool.and_eq_true] at h
      rw [Node.eq_of_beq a b h.1, Node.eqL_of_beqL as bs h.2]
    | [], _ :: _, h => by simp [Node.beqL] at h
    | _ :: _, [], h => by simp [Node.beqL] at h
end

theorem builder_addList_flatten (ty : NType) (a b : Node) (rest : List Node) (n : Nat)
    (es : List (List Sym)) :
    addList ty ⟨a :: b :: rest, n, es⟩ =
      .ok ⟨(if b.t = ty then b.pushBack a else Node.mk ty [] 0 [b, a]) :: rest, n, es⟩ := by
  simp only [addList, popFront_cons, BState.pushFront]
  split <;> simp [Node.pushBack]

theorem addList_short (ty : NType) (items : List Node) (n : Nat) (es : List (List Sym))
    (h : items.length < 2) :
    addList ty ⟨items, n, es⟩ = .panic "tree is empty" := by
  match items, h with
  | [], _ => rfl
  | [_], _ => rfl

theorem builder_addFix (ty : NType) (a : Node) (rest : List Node) (n : Nat) (es : List (List Sym)) :
    addFix ty ⟨a :: rest, n, es⟩ = .ok ⟨Node.mk ty [] 0 [a] :: rest, n, es⟩ := by
  simp [addFix, BState.pushFront, Node.pushBack]

theorem builder_addDoubleCharacter (s : List Sym) (items : List Node) (n : Nat) (es : List (List Sym)) :
    addDoubleCharacterS s ⟨items, n, es⟩ =
      .ok ⟨Node.mk .alternate [] 0 [.leaf .character (toLowerS s), .leaf .character (toUpperS s)] :: items,
           n, es⟩ := by
  simp only [addDoubleCharacterS, addCharacterS, BState.pushFront, builder_addList_flatten]
  rfl

theorem builder_addCaseFold (c : Node) (rest : List Node) (n : Nat) (es : List (List Sym)) :
    addCaseFoldS ⟨c :: rest, n, es⟩ =
      .ok ⟨(if toLowerS c.s = toUpperS c.s then c
            else if c.s ≠ toLowerS c.s ∧ c.s ≠ toUpperS c.s then
              Node.mk .alternate [] 0
                [.leaf .character (toLowerS c.s), .leaf .character (toUpperS c.s), c]
            else Node.mk .alternate [] 0
                [.leaf .character (toLowerS c.s), .leaf .character (toUpperS c.s)]) :: rest, n, es⟩ := by
  simp only [addCaseFoldS, popFront_cons, builder_addDoubleCharacter, BState.pushFront]
  by_cases h1 : toLowerS c.s = toUpperS c.s
  · simp only [h1, if_true]
  · simp only [h1, if_false, builder_addList_flatten]
    split <;> simp [Node.t, Node.pushBack]

theorem addCaseFold_nil (n : Nat) (es : List (List Sym)) :
    addCaseFoldS ⟨[], n, es⟩ = .panic "tree is empty" := rfl

/-- Number of deque entries a call needs (it pops that many before anything else can go wrong). -/
def Op.need : Op → Nat
  | .addExpression | .addAlternate | .addSequence | .addRange | .addDoubleRange => 2
  | .addState _ | .addPeekFor | .addPeekNot | .addQuery | .addStar | .addPlus | .addPush
  | .addCaseFold => 1
  | _ => 0

/-- Number of entries it leaves in place of the ones it took: one, whatever the call. -/
def Op.out : Op → Nat
  | _ => 1

/-- The running-depth check: every call finds the entries it needs. -/
def balanced : List Op → Nat → Bool
  | [], _ => true
  | o :: os, n => decide (o.need ≤ n) && balanced os (n - o.need + o.out)

/-- One call; `builder_balanced_completes` and `builder_unbalanced_panics` iterate it. -/
theorem Op.apply_spec (o : Op) (st : BState) :
    (st.items.length < o.need ∧ o.apply st = .panic "tree is empty") ∨
    (o.need ≤ st.items.length ∧
      ∃ st', o.apply st = .ok st' ∧ st'.items.length = st.items.length - o.need + o.out) := by
  obtain ⟨items, rc, errs⟩ := st
  -- A call pops the entries it needs before anything else, so the number of entries decides.  In each
  -- `simp` set: the statement and the call; what the builder functions do on a deque of this length
  -- (unfolded where they panic, by their equations above where they succeed); the deque operations;
  -- `apply_ite` for the `if` of `AddHexaCharacter`, which only touches `errs`.
  match items with
  | [] =>
    cases o <;>
      simp [Op.need, Op.out, Op.apply, bind, Out.bind,
        addList, addFix, addCaseFoldS, addDoubleCharacterS, addCharacterS,
        BState.popFront, BState.pushFront, BState.pushBack, BState.addErr, Node.pushBack,
        apply_ite BState.items]
  | [a] =>
    cases o <;>
      simp [Op.need, Op.out, Op.apply, bind, Out.bind, pure,
        addList, addFix, builder_addCaseFold, addDoubleCharacterS, addCharacterS,
        BState.popFront, BState.pushFront, BState.pushBack, BState.addErr, Node.pushBack,
        apply_ite BState.items]
  | a :: b :: rest =>
    cases o <;>
      simp [Op.need, Op.out, Op.apply, bind, Out.bind, pure,
        builder_addList_flatten, builder_addFix, builder_addCaseFold, builder_addDoubleCharacter,
        addCharacterS,
        popFront_cons, BState.pushFront, BState.pushBack, BState.addErr,
        apply_ite BState.items]

theorem builder_balanced_completes (ops : List Op) (st : BState)
    (h : balanced ops st.items.length = true) : ∃ st', applyOps ops st = .ok st' := by
  induction ops generalizing st with
  | nil => exact ⟨st, rfl⟩
  | cons o os ih =>
    simp only [balanced, Bool.and_eq_true, decide_eq_true_eq] at h
    rcases Op.apply_spec o st with ⟨hlt, _⟩ | ⟨_, st', he, hlen⟩
    · omega
    · simp only [applyOps, he]
      exact ih st' (by rw [hlen]; exact h.2)

theorem builder_never_panics_on_balanced (ops : List Op) (st : BState)
    (h : balanced ops st.items.length = true) : ∀ m, applyOps ops st ≠ .panic m := by
  intro m hm
  obtain ⟨st', he⟩ := builder_balanced_completes ops st h
  rw [he] at hm
  cases hm

theorem builder_unbalanced_panics (ops : List Op) (st : BState)
    (h : balanced ops st.items.length = false) : applyOps ops st = .panic "tree is empty" := by
  induction ops generalizing st with
  | nil => simp [balanced] at h
  | cons o os ih =>
    rcases Op.apply_spec o st with ⟨hlt, he⟩ | ⟨hle, st', he, hlen⟩
    · simp [applyOps, he]
    · simp only [applyOps, he]
      apply ih st'
      rw [hlen]
      simp only [balanced, Bool.and_eq_false_iff, decide_eq_false_iff_not] at h
      rcases h with h | h
      · omega
      · exact h

theorem builder_unbalanced_fails (ops : List Op) (st : BState)
    (h : balanced ops st.items.length = false) : ∀ st', applyOps ops st ≠ .ok st' := by
  intro st' hs
  rw [builder_unbalanced_panics ops st h] at hs
  cases hs

/-! ### case folding: `strings.ToLower` / `strings.ToUpper` and `AddCaseFold` on one character -/

/-- The node `AddCaseFold` leaves for a character node holding the one rune `r`: the character
    itself when `r` has no case, else the choice of its lower and upper case, followed by `r` itself
    when it is neither (title case). -/
def foldNode (r : Sym) : Node :=
  if lowerSym r = upperSym r then .leaf .character [r]
  else if r ≠ lowerSym r ∧ r ≠ upperSym r then
    .mk .alternate [] 0 [.leaf .character [lowerSym r], .leaf .character [upperSym r], .leaf .character [r]]
  else .mk .alternate [] 0 [.leaf .character [lowerSym r], .leaf .character [upperSym r]]

theorem builder_addCaseFold_char (r : Sym) (rest : List Node) (n : Nat) (es : List (List Sym)) :
    addCaseFoldS ⟨.leaf .character [r] :: rest, n, es⟩ = .ok ⟨foldNode r :: rest, n, es⟩ := by
  rw [builder_addCaseFold]
  simp only [Node.leaf, Node.s, toLowerS, toUpperS, List.map_cons, List.map_nil, foldNode, ne_eq,
    List.cons.injEq, and_true]

theorem lowerSym_ascii (c : Sym) (h : c ≤ 127) :
    lowerSym c = if 65 ≤ c ∧ c ≤ 90 then c + 32 else c := by
  simp [lowerSym, unicodeToLower, maxASCII, h]
theorem upperSym_ascii (c : Sym) (h : c ≤ 127) :
    upperSym c = if 97 ≤ c ∧ c ≤ 122 then c - 32 else c := by
  simp [upperSym, unicodeToUpper, maxASCII, h]

theorem foldNode_ascii (c : Sym) (h : c ≤ 127) :
    foldNode c =
      if 97 ≤ c ∧ c ≤ 122 then .mk .alternate [] 0 [.leaf .character [c], .leaf .character [c - 32]]
      else if 65 ≤ c ∧ c ≤ 90 then .mk .alternate [] 0 [.leaf .character [c + 32], .leaf .character [c]]
      else .leaf .character [c] := by
  unfold foldNode
  rw [lowerSym_ascii c h, upperSym_ascii c h]
  by_cases h1 : 97 ≤ c ∧ c ≤ 122
  · have h2 : ¬ (65 ≤ c ∧ c ≤ 90) := by omega
    have h3 : ¬ c = c - 32 := by omega
    simp [h1, h2, h3]
  · by_cases h2 : 65 ≤ c ∧ c ≤ 90
    · simp [h1, h2]
    · simp [h1, h2]

/-- Every range is non-empty and ends before the next begins. -/
def caseRangesSorted : List CaseRange → Bool
  | [] => true
  | [a] => decide (a.lo ≤ a.hi)
  | a :: b :: rest => decide (a.lo ≤ a.hi) && decide (a.hi < b.lo) && caseRangesSorted (b :: rest)

theorem goCaseRanges_sorted : caseRangesSorted goCaseRanges = true := by kernel_rfl

/-- The check compares neighbours; non-emptiness carries `a.hi < c.lo` past them. -/
theorem caseRangesSorted_cons : ∀ {rest : List CaseRange} {a : CaseRange},
    caseRangesSorted (a :: rest) = true →
    a.lo ≤ a.hi ∧ (∀ c ∈ rest, a.hi < c.lo) ∧ caseRangesSorted rest = true
  | [], a, h => ⟨of_decide_eq_true h, fun _ hc => (nomatch hc), rfl⟩
  | b :: rest, a, h => by
    simp only [caseRangesSorted, Bool.and_eq_true, decide_eq_true_eq] at h
    obtain ⟨hb, hbr, _⟩ := caseRangesSorted_cons h.2
    refine ⟨h.1.1, fun c hc => ?_, h.2⟩
    rcases List.mem_cons.mp hc with rfl | hc
    · exact h.1.2
    · have := hbr c hc
      omega

/-- Go's `lookupCaseRange` is a binary search, the model's a search from the front: in a checked
    table both find the one range that holds `r`. -/
theorem lookupCaseRange_unique (r : Nat) : ∀ (tbl : List CaseRange), caseRangesSorted tbl = true →
    ∀ cr ∈ tbl, cr.holds r = true → lookupCaseRange r tbl = some cr := by
  intro tbl
  induction tbl with
  | nil => intro _ cr hc; cases hc
  | cons a rest ih =>
    intro hs cr hc hh
    obtain ⟨_, hlt, hs'⟩ := caseRangesSorted_cons hs
    unfold lookupCaseRange
    rw [List.find?_cons]
    rcases List.mem_cons.mp hc with rfl | hc'
    · rw [hh]
    · have ha : a.holds r = false := by
        have := hlt cr hc'
        simp only [CaseRange.holds, Bool.and_eq_true, decide_eq_true_eq] at hh
        simp only [CaseRange.holds, Bool.and_eq_false_iff, decide_eq_false_iff_not]
        omega
      rw [ha]
      exact ih hs' cr hc' hh

/-! ### `strconv.ParseInt` and the numeric escapes -/

theorem digitVal_lt {base c d : Nat} (h : digitVal base c = some d) : d < base := by
  unfold digitVal at h
  split at h
  · cases h; assumption
  · cases h

/-- A sign character is not a digit. -/
theorem digitVal_sign (base : Nat) : digitVal base 43 = none ∧ digitVal base 45 = none := by
  constructor <;> simp [digitVal, digitRaw]

/-- A string of digits does not begin with a sign: `ParseInt` goes straight to the magnitude. -/
theorem parse_unsigned (base : Nat) (ds : List Sym) (v : Nat) (hv : digitsVal base ds 0 = some v) :
    parseInt32 base ds = parseMag32 base false ds ∧
    parseIntErr32 base ds = parseMagErr32 base false ds := by
  unfold parseInt32 parseIntErr32
  constructor <;> split <;> first | rfl | simp [digitsVal, digitVal_sign] at hv

/-- `ParseInt(s, base, 32)` saturates at `2^31 - 1 = 2147483647`. -/
theorem parseInt32_digits (base : Nat) (ds : List Sym) (v : Nat) (hne : ds ≠ [])
    (hv : digitsVal base ds 0 = some v) :
    parseInt32 base ds = if v ≥ 2147483648 then 2147483647 else Int.ofNat v := by
  rw [(parse_unsigned base ds v hv).1]
  unfold parseMag32
  split
  · exact absurd rfl hne
  · simp only [hv, Bool.false_eq_true, if_false]
    split <;> split <;> first | rfl | omega

/-- `v` is a Unicode code point: at most U+10FFFF and not a surrogate. -/
def isCodePoint (v : Nat) : Bool :=
  decide (v ≤ 0x10FFFF) && !(decide (0xD800 ≤ v) && decide (v ≤ 0xDFFF))

theorem isCodePoint_iff (v : Nat) :
    isCodePoint v = true ↔ v ≤ 0x10FFFF ∧ ¬ (0xD800 ≤ v ∧ v ≤ 0xDFFF) := by
  simp only [isCodePoint, Bool.and_eq_true, Bool.not_eq_true', Bool.and_eq_false_iff,
    decide_eq_true_eq, decide_eq_false_iff_not]
  omega

/-- `string(rune(x))` of what `ParseInt` returns for the digit value `v`. -/
theorem runeOfInt_parse (v : Nat) :
    runeOfInt (if v ≥ 2147483648 then 2147483647 else Int.ofNat v) =
      if isCodePoint v = true then v else 0xFFFD := by
  simp only [isCodePoint_iff]
  split
  · have : runeOfInt 2147483647 = 0xFFFD := by decide
    rw [this, if_neg (by omega)]
  · show (if v > 0x10FFFF ∨ (0xD800 ≤ v ∧ v ≤ 0xDFFF) then 0xFFFD else v) = _
    split <;> split <;> first | rfl | omega

theorem parseIntErr32_digits (base : Nat) (ds : List Sym) (v : Nat) (hne : ds ≠ [])
    (hv : digitsVal base ds 0 = some v) :
    parseIntErr32 base ds = decide (v ≥ 2147483648) := by
  rw [(parse_unsigned base ds v hv).2]
  unfold parseMagErr32
  split
  · exact absurd rfl hne
  · simp only [hv, Bool.false_eq_true, if_false]
    split <;> simp <;> omega

/-- `2^31 - 1`, at which `ParseInt` saturates, is no code point. -/
theorem validRune_parse (v : Nat) :
    validRune (if v ≥ 2147483648 then 2147483647 else Int.ofNat v) = isCodePoint v := by
  rw [Bool.eq_iff_iff, isCodePoint_iff]
  split
  · have : validRune 2147483647 = false := by decide
    rw [this]
    constructor
    · intro h; cases h
    · omega
  · show (decide (v < 0xD800) || (decide (0xDFFF < v) && decide (v ≤ 0x10FFFF))) = true ↔ _
    simp only [Bool.or_eq_true, Bool.and_eq_true, decide_eq_true_eq]
    omega

/-- The test of `AddHexaCharacter`: `err != nil || !utf8.ValidRune(rune(hexa))`. -/
theorem hex_reported_iff (ds : List Sym) (v : Nat) (hne : ds ≠ [])
    (hv : digitsVal 16 ds 0 = some v) :
    (parseIntErr32 16 ds || !validRune (parseInt32 16 ds)) = !isCodePoint v := by
  rw [parseIntErr32_digits 16 ds v hne hv, parseInt32_digits 16 ds v hne hv, validRune_parse]
  cases hc : isCodePoint v with
  | false => simp
  | true =>
    have := (isCodePoint_iff v).mp hc
    have : ¬ v ≥ 2147483648 := by omega
    simp [this]

theorem escape_hex_spec (ds : List Sym) (v : Nat) (st : BState) (hne : ds ≠ [])
    (hv : digitsVal 16 ds 0 = some v) :
    (Op.addHexaCharacter ds).apply st =
      .ok (if isCodePoint v = true then st.pushFront (.leaf .character [v])
           else (st.addErr (hexErrMsg ds)).pushFront (.leaf .character [0xFFFD])) := by
  have hc := hex_reported_iff ds v hne hv
  simp only [Op.apply, addCharacterS, hc]
  rw [parseInt32_digits 16 ds v hne hv, runeOfInt_parse]
  cases isCodePoint v <;> simp

theorem escape_octal_spec (ds : List Sym) (v : Nat) (st : BState) (hne : ds ≠ [])
    (hv : digitsVal 8 ds 0 = some v) :
    (Op.addOctalCharacter ds).apply st =
      .ok (st.pushFront (.leaf .character [if isCodePoint v = true then v else 0xFFFD])) := by
  simp only [Op.apply, addCharacterS, parseInt32_digits 8 ds v hne hv, runeOfInt_parse]

theorem digitsVal_bound (base : Nat) : ∀ (ds : List Sym) (acc v : Nat),
    digitsVal base ds acc = some v → v < (acc + 1) * base ^ ds.length := by
  intro ds
  induction ds with
  | nil => intro acc v h; simp [digitsVal] at h; subst h; simp
  | cons c cs ih =>
    intro acc v h
    simp only [digitsVal] at h
    cases hd : digitVal base c with
    | none => simp [hd] at h
    | some d =>
      simp only [hd] at h
      have := ih _ _ h
      have hdlt := digitVal_lt hd
      have h2 : acc * base + d + 1 ≤ (acc + 1) * base := by
        rw [Nat.add_mul]; omega
      calc v < (acc * base + d + 1) * base ^ cs.length := this
        _ ≤ ((acc + 1) * base) * base ^ cs.length := Nat.mul_le_mul_right _ h2
        _ = (acc + 1) * base ^ (c :: cs).length := by
          rw [List.length_cons, Nat.pow_succ, Nat.mul_assoc, Nat.mul_comm base]

/-- At most three octal digits (all the grammar captures) always denote their value. -/
theorem escape_octal_small (ds : List Sym) (v : Nat) (st : BState) (hne : ds ≠ [])
    (hlen : ds.length ≤ 3) (hv : digitsVal 8 ds 0 = some v) :
    (Op.addOctalCharacter ds).apply st = .ok (st.pushFront (.leaf .character [v])) := by
  have hb := digitsVal_bound 8 ds 0 v hv
  have : (8 : Nat) ^ ds.length ≤ 8 ^ 3 := Nat.pow_le_pow_right (by decide) hlen
  have hv' : v < 512 := by
    have h3 : (8 : Nat) ^ 3 = 512 := by decide
    omega
  rw [escape_octal_spec ds v st hne hv, if_pos ((isCodePoint_iff v).mpr (by omega))]

/-! ### the model front end and the PEG semantics -/

theorem frontCore_sound (G : Grammar) (acts tbl) (entry : String) (text : List Sym) (fuel : Nat) :
    (∀ top, frontCore G acts tbl entry text fuel = .ok top →
      ∃ p forest evs, Eval G (fun _ _ => false) text (.name entry) 0 (.ok p forest) evs) ∧
    (frontCore G acts tbl entry text fuel = .syntaxError →
      ∃ evs, Eval G (fun _ _ => false) text (.name entry) 0 .fail evs) ∧
    (∀ errs, frontCore G acts tbl entry text fuel = .invalid errs →
      ∃ p forest evs, Eval G (fun _ _ => false) text (.name entry) 0 (.ok p forest) evs) := by
  unfold frontCore
  cases he : evalF G (fun _ _ => false) text fuel (.name entry) 0 with
  | none => exact ⟨fun _ h => (nomatch h), fun h => (nomatch h), fun _ h => (nomatch h)⟩
  | some r =>
    obtain ⟨res, evs⟩ := r
    cases res with
    | fail => exact ⟨fun _ h => (nomatch h), fun _ => ⟨evs, evalF_sound _ _ _ _ _ he⟩, fun _ h => (nomatch h)⟩
    | ok p forest =>
      refine ⟨fun _ _ => ⟨p, forest, evs, evalF_sound _ _ _ _ _ he⟩, fun h => ?_,
        fun _ _ => ⟨p, forest, evs, evalF_sound _ _ _ _ _ he⟩⟩
      -- after a match no branch answers `.syntaxError`
      simp only at h
      split at h
      · cases h
      · split at h
        · unfold BState.finish at h
          split at h <;> cases h
        · cases h
        · cases h

theorem frontCore_fuel_irrelevant (G : Grammar) (acts tbl) (entry : String) (text : List Sym)
    (f1 f2 : Nat)
    (h1 : frontCore G acts tbl entry text f1 ≠ .unsupported "out of fuel")
    (h2 : frontCore G acts tbl entry text f2 ≠ .unsupported "out of fuel") :
    frontCore G acts tbl entry text f1 = frontCore G acts tbl entry text f2 := by
  unfold frontCore at *
  cases e1 : evalF G (fun _ _ => false) text f1 (.name entry) 0 with
  | none => simp_all
  | some r1 =>
    cases e2 : evalF G (fun _ _ => false) text f2 (.name entry) 0 with
    | none => simp_all
    | some r2 =>
      obtain ⟨res1, evs1⟩ := r1
      obtain ⟨res2, evs2⟩ := r2
      obtain ⟨hr, he⟩ := Eval_det (evalF_sound _ _ _ _ _ e1) (evalF_sound _ _ _ _ _ e2)
      subst hr; subst he
      rfl

end PegVerif
