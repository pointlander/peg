import PegVerif.Model.Runes
import PegVerif.Proofs.CoreLemmas
/-
  Every rune of a decoded Go string is below the end symbol `0x110000`, which is the hypothesis
  `∀ c ∈ inp, c ≠ END` of the refinement theorems.  (That it is a scalar value or U+FFFD, i.e. no
  surrogate, is not needed and not proved.)
-/
namespace PegVerif

/-- The rows `F0`–`F4` of the table read backwards, for the four-byte branch of `decodeRune`. -/
theorem utf8Lead_four {c w lo hi : Nat} (h : utf8Lead c = some (w, lo, hi)) (h2 : w ≠ 2)
    (h3 : w ≠ 3) : 0xF0 ≤ c ∧ c ≤ 0xF4 ∧ (c = 0xF4 → lo = 0x80 ∧ hi = 0x8F) := by
  simp only [utf8Lead, ite_eq_iff, Option.some.injEq, Prod.mk.injEq, reduceCtorEq, and_false,
    or_false] at h
  omega

theorem decodeRune_spec (bs : List Nat) : (decodeRune bs).1 < END ∧ 1 ≤ (decodeRune bs).2 := by
  fun_cases decodeRune bs <;> dsimp only [END]
  -- `case10` is the four-byte branch, the only one that needs the table: the lead byte is at most
  -- `F4`, and `F4` caps the second byte at `8F`, which keeps the value at or below `10FFFF`.
  -- `h2 h3`: the width is not 2, not 3 (the earlier arms); `h`: the table's row for the lead byte;
  -- then the three continuation bytes, the rest of the input, and the range checks (used by `omega`)
  case case10 h2 h3 h _ _ _ _ _ =>
    have := utf8Lead_four h h2 h3
    omega
  all_goals omega

theorem runesF_spec (f : Nat) (bs : List Nat) :
    (∀ c ∈ runesF f bs, c < END) ∧ (runesF f bs).length ≤ bs.length := by
  induction f generalizing bs with
  | zero => simp [runesF]
  | succ f ih =>
    cases bs with
    | nil => simp [runesF]
    | cons b rest =>
      have ⟨h1, h2⟩ := decodeRune_spec (b :: rest)
      have ⟨i1, i2⟩ := ih ((b :: rest).drop (decodeRune (b :: rest)).2)
      simp only [runesF, List.forall_mem_cons, List.length_cons, List.length_drop] at i2 ⊢
      exact ⟨⟨h1, i1⟩, by omega⟩

theorem runes_ne_END (bs : List Nat) : ∀ c ∈ runes bs, c ≠ END :=
  fun c hc => Nat.ne_of_lt ((runesF_spec _ _).1 c hc)

theorem runes_length_le (bs : List Nat) : (runes bs).length ≤ bs.length := (runesF_spec _ _).2

theorem runes_ascii (bs : List Nat) (h : ∀ b ∈ bs, b < 0x80) : runes bs = bs := by
  induction bs with
  | nil => rfl
  | cons b rest ih =>
    have hb : b < 0x80 := h b List.mem_cons_self
    simp only [runes, List.length_cons, runesF, decodeRune, hb, if_true, List.drop_succ_cons,
      List.drop_zero]
    rw [← runes, ih fun x hx => h x (List.mem_cons_of_mem _ hx)]

end PegVerif
