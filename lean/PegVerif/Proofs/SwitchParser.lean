import PegVerif.Proofs.RunFacts
import PegVerif.Proofs.WorldSwitch
import PegVerif.Model.Optimise
/-
  The end-to-end statements for the parser emitted from a grammar that may contain
  `TypeUnorderedAlternate` nodes (`.ualt`, created by the `-switch` rewrite `optimizeAlternates`;
  `compileAll` takes the rewritten grammar): `World` holds of it (`switch_world`, WorldSwitch.lean), so
  every property stated over `World` holds for `-switch` output, and the three theorems here
  instantiate the ones about verdict, position and tokens.  The rest of the file is tests: small
  grammars that show which leading tests `compile` elides behind a `case` and what the condition on
  the case keys (`casesLeadOK`) rejects, run through the harness `swAgree` (emitted code on the
  machine against the reference interpreter), which `Props/C02Switch.lean` reuses.
-/
namespace PegVerif

/-- **C01 for `-switch` output**: every run of the function emitted for rule `n` returns true
    exactly when the PEG semantics of the (rewritten) grammar matches a prefix, stops at the end of
    exactly that prefix, and never panics. -/
theorem switch_generated_parser (G : Grammar) (o : Opts) (cfg : Cfg) (inp : List Sym)
    (hinl : o.inline = false) (hast : o.ast = true) (hcfg : cfg.ast = true)
    (hinp : ∀ c ∈ inp, c ≠ END) (hG : GrammarOKS G = true) (hL : LinkedOK G = true)
    (hplain : G.plainS)
    {n cr res evs out s'} (hfind : (compileAll o G).find n = some cr)
    (hev : Eval G cfg.rho inp (.name n) 0 res evs)
    (hrun : Exec (compileAll o G) cfg inp cr 0 St.init Frame.empty (out, s')) :
    (out = .ret true ↔ ∃ p' f, res = .ok p' f) ∧ (∀ p' f, res = .ok p' f → s'.pos = p') ∧
    (out = .ret false ↔ res = .fail) ∧ out ≠ .panic :=
  (R_afterReset (switch_world G o cfg inp hinl hast hcfg hinp hG hL hplain) afterReset_init hfind hev
    hrun).fresh

/-- From a fresh or `Reset()` parser (any stale token buffer): on success the published tokens are
    the post-order of the derivation forest, on failure `maxToken` is the fold over the attempted
    tokens. -/
theorem switch_generated_parser_tokens (G : Grammar) (o : Opts) (cfg : Cfg) (inp : List Sym)
    (hinl : o.inline = false) (hast : o.ast = true) (hcfg : cfg.ast = true)
    (hinp : ∀ c ∈ inp, c ≠ END) (hG : GrammarOKS G = true) (hL : LinkedOK G = true)
    (hplain : G.plainS)
    {n cr res evs s out s'} (hs : AfterReset s) (hfind : (compileAll o G).find n = some cr)
    (hev : Eval G cfg.rho inp (.name n) 0 res evs)
    (hrun : Exec (compileAll o G) cfg inp cr 0 s Frame.empty (out, s')) :
    out ≠ .panic ∧
    match res with
    | .ok p' forest => out = .ret true ∧ s'.pos = p' ∧ s'.tree.take s'.ti = postorderL forest
    | .fail => out = .ret false ∧ s'.maxTok = evs.foldl updTok zeroTok := by
  have h := R_afterReset (switch_world G o cfg inp hinl hast hcfg hinp hG hL hplain) hs hfind hev hrun
  refine ⟨h.ne_panic, ?_⟩
  cases res with
  | ok p' forest => exact ⟨h.out, h.pos, h.toks⟩
  | fail => exact ⟨h.out, h.maxTok⟩

/-- The executable model used by the T-run tie obeys the theorem. -/
theorem switch_parseF (G : Grammar) (o : Opts) (cfg : Cfg) (inp : List Sym)
    (hinl : o.inline = false) (hast : o.ast = true) (hcfg : cfg.ast = true)
    (hinp : ∀ c ∈ inp, c ≠ END) (hG : GrammarOKS G = true) (hL : LinkedOK G = true)
    (hplain : G.plainS)
    {n cr res evs fuel pr st} (hfind : (compileAll o G).find n = some cr)
    (hev : Eval G cfg.rho inp (.name n) 0 res evs)
    (hrun : parseF (compileAll o G) cfg inp fuel n St.init = (pr, st)) (hfuel : pr ≠ .stuck) :
    match res with
    | .ok p' forest => pr = .ok (postorderL forest) ∧ st.pos = p'
    | .fail => pr = .fail (evs.foldl updTok zeroTok) := by
  have h := R_parseF (switch_world G o cfg inp hinl hast hcfg hinp hG hL hplain) hfind hev hrun hfuel
  -- the same `match` as in `R_parseF`, but compiled to another auxiliary matcher
  cases res <;> exact h

/-! ### Non-vacuity

  `S <- ('a' 'x' / [b-c] 'y' / 'd') !.` after the `-switch` rewrite, written by hand:
  `switch { case 'a': 'a' 'x'; case 'b','c': [b-c] 'y'; default: 'd' }`.  In the emitted code the
  test of `'a'` is elided (one key), the test of `[b-c]` is kept (two keys: `parentMultipleKey`),
  `'d'` keeps its test. -/

def swExG : Grammar := { rules := [
  { name := "S", id := 0, body := .ipush (.seq [
      .ualt [[(97, 97)], [(98, 99)]]
        [.seq [.chr 97, .chr 120], .seq [.rng 98 99, .chr 121], .chr 100],
      .peekNot .dot]) "S" }] }

/-- The side conditions of `switch_generated_parser` hold (and `S` gets a function). -/
example : GrammarOKS swExG = true ∧ LinkedOK swExG = true ∧ swExG.plainS ∧
    ((compileAll {} swExG).find "S").isSome = true :=
  ⟨by decide +kernel, by decide +kernel, Grammar.plainS_of_all (by decide +kernel),
    by decide +kernel⟩

/-- The elision really happens in this example: the test of `'a'` behind `case 'a'` is not printed
    (no `ifNeChr 97`), so this is not the `-switch`-free theorem again.  The range test of the
    two-key case `[b-c]` is printed (`TypeRange` honours `parentMultipleKey`). -/
example : ((compileAll {} swExG).find "S").map (fun c =>
      (c.contains (.ifNeChr 97 0), c.contains (.ifNotRng 98 99 0), c.contains (.ifNeChr 100 0),
        c.any (fun i => match i with | .switchOn .. => true | _ => false))) =
    some (false, true, true, true) := by decide +kernel

/-- A range with a single key still elides its test: `switch { case 'b': [b-b] 'y'; default: 'd' }`. -/
def swRng1G : Grammar := { rules := [
  { name := "S", id := 0, body := .ipush (.seq [
      .ualt [[(98, 98)]] [.seq [.rng 98 98, .chr 121], .chr 100], .peekNot .dot]) "S" }] }

example : GrammarOKS swRng1G = true := by decide +kernel
example : ((compileAll {} swRng1G).find "S").map (fun c => c.contains (.ifNotRng 98 98 0)) =
    some false := by decide +kernel

/-- `GrammarOK` rejects the grammar (it has a `-switch` node); `GrammarOKS` extends it (`GrammarOK.toS`). -/
example : GrammarOK swExG = false := by decide +kernel

/-- TEST harness: reference interpreter against the emitted code run by the machine model. -/
def swAgree (G : Grammar) (inp : List Sym) : Bool :=
  let cfg : Cfg := { ast := true, memo := true, rho := fun _ _ => true }
  match (compileAll {} G).find "S" with
  | none => false
  | some cr =>
    match evalF G cfg.rho inp 50 (.name "S") 0,
        execF (compileAll {} G) cfg inp 500 cr 0 St.init Frame.empty with
    | some (.ok p' f, _), some (.ret true, s') => s'.pos == p' && s'.tree.take s'.ti == postorderL f
    | some (.fail, evs), some (.ret false, s') => s'.maxTok == evs.foldl updTok zeroTok
    | _, _ => false

/-- TESTS (not theorems about all inputs): `execF` and `evalF` agree on accepted and rejected inputs. -/
example : swAgree swExG [97, 120] = true := by decide +kernel   -- "ax"  accepted, case 0
example : swAgree swExG [98, 121] = true := by decide +kernel   -- "by"  accepted, case 1
example : swAgree swExG [99, 121] = true := by decide +kernel   -- "cy"  accepted, case 1
example : swAgree swExG [100] = true := by decide +kernel       -- "d"   accepted, default
example : swAgree swExG [97, 121] = true := by decide +kernel   -- "ay"  rejected inside case 0
example : swAgree swExG [101] = true := by decide +kernel       -- "e"   rejected in the default
example : swAgree swExG [] = true := by decide +kernel          -- ""    rejected (end symbol → default)
example : swAgree swExG [100, 100] = true := by decide +kernel  -- "dd"  rejected by `!.`

/-- TEST: the verdict on "ax" is a success consuming both runes with the single token `S[0,2)`. -/
example : ∃ f evs, Eval swExG (fun _ _ => true) [97, 120] (.name "S") 0 (.ok 2 f) evs ∧
    postorderL f = [⟨"S", 0, 2⟩] :=
  ⟨_, _, evalF_sound 20 _ _ _ _ (by rfl), by rfl⟩

/-! ### The output of the modelled rewrite

    The output of the MODELLED `-switch` rewrite (`optimise` = `optimizeAlternates`) on a source
    grammar is in the fragment: `S <- ('a' 'x' / [b-c] 'y' / 'd' 'z' / 'e') !.` is rewritten to one
    `switch` whose default is the `[b-c]` alternative, and the result passes all side conditions
    (while the `-switch`-free check `GrammarOK` rejects it). -/

def swSrcG : Grammar := { rules := [
  { name := "S", id := 0, body := .ipush (.seq [
      .alt [.seq [.chr 97, .chr 120], .seq [.rng 98 99, .chr 121], .seq [.chr 100, .chr 122], .chr 101],
      .peekNot .dot]) "S" }] }

def okAfterSwitch (G : Grammar) : Bool :=
  match optimise G with
  | .ok g => GrammarOKS g && LinkedOK g && g.rules.all (fun r => r.body.plainS) && !GrammarOK g
  | .error _ => false

example : okAfterSwitch swSrcG = true := by decide +kernel

/-- TESTS: the code emitted for the rewritten grammar agrees with the semantics of the rewritten
    grammar on these inputs. -/
example : (match optimise swSrcG with
    | .ok g => [[97, 120], [98, 121], [100, 122], [101], [100, 120], [102], []].all (swAgree g)
    | .error _ => false) = true := by decide +kernel

/-! ### `.` behind a `case`

    `.` directly behind a `case` is `position++` (before the repair of the generator it emitted
    nothing).  The side condition for it is that every key of the case is below the end symbol (then
    the position is inside the input); with it the emitted code and the semantics agree. -/

def swDotG : Grammar := { rules := [
  { name := "S", id := 0, body := .ipush (.seq [
      .ualt [[(97, 97)]] [.seq [.dot, .chr 120], .chr 100], .peekNot .dot]) "S" }] }

example : GrammarOKS swDotG = true := by decide +kernel
/-- The test of `.` is elided, the position is advanced. -/
example : ((compileAll {} swDotG).find "S").map (fun c =>
    (c.any (fun i => match i with | .ifNotDot _ => true | _ => false), c.contains .inc)) =
    some (true, true) := by decide +kernel   -- the one `ifNotDot` left is that of `!.`
/-- TESTS: code and semantics agree ("ax" accepted, "a" / "ay" rejected inside the case, "d" default). -/
example : [[97, 120], [97], [97, 121], [100], [], [98]].all (swAgree swDotG) = true := by decide +kernel

/-- The side condition is not vacuous: keys that reach the end symbol do not justify eliding the
    test of `.` (at the end of input `.` fails but `position++` would not) — rejected. -/
example : GrammarOKS { rules := [
    { name := "S", id := 0, body := .ipush (.seq [
      .ualt [[(97, END)]] [.seq [.dot, .chr 120], .chr 100], .peekNot .dot]) "S" }] } = false := by
  decide +kernel

/-- … and keys that do not imply an elided character test are rejected (`casesLeadOK`). -/
example : GrammarOKS { rules := [
    { name := "S", id := 0, body := .ipush (.ualt [[(98, 98)]] [.chr 97, .chr 100]) "S" }] } = false := by
  decide +kernel

/-! ### `e*` behind a `case`

    `e*` does not hand `parentDetect` to its body, which is re-run at later positions (before the
    repair of the generator it did): the body keeps its test, the grammar is in the fragment and
    code and semantics agree. -/

def swStarG : Grammar := { rules := [
  { name := "S", id := 0, body := .ipush (.seq [
      .ualt [[(97, 97)]] [.seq [.star (.chr 97), .chr 120], .chr 100], .peekNot .dot]) "S" }] }

example : GrammarOKS swStarG = true := by decide +kernel
example : ((compileAll {} swStarG).find "S").map (fun c =>
    c.any (fun i => match i with | .ifNeChr 97 _ => true | _ => false)) = some true := by decide +kernel
example : [[97, 120], [97, 97, 97, 120], [97, 97], [100], [120], []].all (swAgree swStarG) = true := by
  decide +kernel

/-- Likewise `&e` and `!e` compile their operand without the flags. -/
example : ((compileAll {} { rules := [
    { name := "S", id := 0, body := .ipush (.ualt [[(97, 97)]]
      [.seq [.peekNot (.chr 97), .chr 98], .chr 100]) "S" }] }).find "S").map (fun c =>
    c.any (fun i => match i with | .ifNeChr 97 _ => true | _ => false)) = some true := by decide +kernel

end PegVerif

#print axioms PegVerif.switch_generated_parser
#print axioms PegVerif.switch_generated_parser_tokens
#print axioms PegVerif.switch_parseF
#print axioms PegVerif.R_all
#print axioms PegVerif.good_ualt
#print axioms PegVerif.ruleFunc_suniq
#print axioms PegVerif.leadOK_sound
