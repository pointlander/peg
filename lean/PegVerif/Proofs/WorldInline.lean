import PegVerif.Proofs.InlineLemmas
import PegVerif.Proofs.WorldSwitch
/-
  `-inline -switch` (AST mode): `World` for the program emitted with `-inline` for a grammar that may
  contain `-switch` nodes (`ualt`), with respect to the EXPANDED grammar `expandG o G`.

  In Go the order is link → `-switch` rewrite (`optimise`, giving the grammar this file calls `G`)
  → emission with `-inline`: a reference to a rule that has exactly one reference compiles the
  rule's body in place and hands its own `parentDetect` flags to it.  In the model `compileAll o G`
  with `o.inline = true` compiles `expandInline` of every body (`name n ↦ inl n body`), and
  `compile (.inl n e)` compiles `e` with the flags it was given.  A body compiled in place directly
  behind a `case` therefore has its leading terminal test elided; `leadOK` descends through `inl`,
  so `GrammarOKIS` (`Model/Checkers.lean`) — `okS` of the EXPANDED bodies — checks exactly those
  elisions.

  The emission reads the options only through `inline` and `ast`, and which rules get a function
  only through `inline`: that lets `hasFuncI` and `GrammarOKIS`, which speak of the one option set
  `inlOpts`, serve every option set with `-inline`.
-/
namespace PegVerif

/-! ### The emission does not read `o.switch` -/

theorem slotOf_opts {o o' : Opts} (h : o.inline = o'.inline) (cnt : String → Nat) (r : Rule) (ko : Nat) :
    slotOf o cnt r ko = slotOf o' cnt r ko := by
  unfold slotOf; rw [h]

theorem compileRules_opts {o o' : Opts} (h : o.inline = o'.inline) (env : CEnv) (cnt : String → Nat)
    (bodyOf : Rule → Expr) : ∀ (rules : List Rule) (st : CSt),
    compileRules o env cnt bodyOf rules st = compileRules o' env cnt bodyOf rules st
  | [], _ => by simp only [compileRules]
  | r :: rs, st => by
    rw [compileRules_cons, compileRules_cons]
    simp only [slotCode, slotSt, slotOf_opts h]
    rw [compileRules_opts h env cnt bodyOf rs]

theorem bodyOf_opts {o o' : Opts} (h : o.inline = o'.inline) (G : Grammar) : bodyOf o G = bodyOf o' G := by
  unfold bodyOf; rw [h]

theorem realEnv_opts {o o' : Opts} (h : o.inline = o'.inline) (ha : o.ast = o'.ast) (G : Grammar) :
    realEnv o G = realEnv o' G := by
  unfold realEnv dryJumps dryEnv
  rw [compileRules_opts h, bodyOf_opts h, ha]

/-- `-switch` acts on the grammar (the rewrite `optimise`), not on the emission. -/
theorem compileAll_opts {o o' : Opts} (h : o.inline = o'.inline) (ha : o.ast = o'.ast) (G : Grammar) :
    compileAll o G = compileAll o' G := by
  rw [compileAll_eq, compileAll_eq, compileRules_opts h, bodyOf_opts h, realEnv_opts h ha]

/-- The slots only read the reference counts and the label counter. -/
theorem compileRules_find_isSome_indep (o : Opts) (env env' : CEnv) (cnt : String → Nat)
    (bodyOf : Rule → Expr) (n : String) (rules : List Rule) (st : CSt) :
    ((compileRules o env cnt bodyOf rules st).find n).isSome =
      ((compileRules o env' cnt bodyOf rules st).find n).isSome := by
  rw [compileRules_find_eq, compileRules_find_eq]
  cases rules.find? (fun r => r.name == n) with
  | none => rfl
  | some r => unfold slotCode; simp only [Option.bind_some]; split <;> rfl

theorem compileAll_isSome_opts {o o' : Opts} (h : o.inline = o'.inline) (G : Grammar) (n : String) :
    ((compileAll o G).find n).isSome = ((compileAll o' G).find n).isSome := by
  rw [compileAll_eq, compileAll_eq, compileRules_opts h, bodyOf_opts h]
  exact compileRules_find_isSome_indep _ _ _ _ _ n G.rules _

/-! ### `hasFuncI` and the checker `GrammarOKIS` -/

theorem bodyOf_inlOpts (G : Grammar) (r : Rule) :
    bodyOf inlOpts G r = expandInline G (rulesCount G) G.fuel r.body := by
  simp [bodyOf, inlOpts]

theorem GrammarOKI.toS {G : Grammar} (hG : GrammarOKI G = true) : GrammarOKIS G = true :=
  Grammar.all_find_imp (fun r h => by
    simp only [ruleOKI, ruleOKIS, Bool.or_eq_true] at h ⊢
    exact h.imp_right (okB_okS _ _)) hG

/-- `hasFuncI` speaks of the option set `inlOpts`. -/
theorem hasFuncI_eq {o : Opts} (hinl : o.inline = true) (G : Grammar) (n : String) :
    hasFuncI G n = ((compileAll o G).find n).isSome :=
  compileAll_isSome_opts (o := inlOpts) hinl.symm G n

theorem hasFuncI_of_find {o : Opts} (hinl : o.inline = true) {G : Grammar} {n : String} {r : Rule}
    (hr : G.find n = some r) (hs : ((compileAll o G).find n).isSome = true) :
    hasFuncI G r.name = true := by
  rw [Grammar.find_name hr, hasFuncI_eq hinl]
  exact hs

/-- `hasFuncI` in terms of the emission loop (`slotOf_func_iff` says when the slot is `func`). -/
theorem hasFuncI_slot {G : Grammar} {n : String} (h : hasFuncI G n = true) :
    ∃ (r : Rule) (ko : Nat), G.find n = some r ∧ slotOf inlOpts (rulesCount G) r ko = .func := by
  obtain ⟨cr, hfind⟩ := Option.isSome_iff_exists.mp h
  obtain ⟨r, ko, _, hE⟩ := compileAll_find hfind
  exact ⟨r, ko, hE.find, hE.slot⟩

theorem GrammarOKIS.fineS {o : Opts} {G : Grammar} (hinl : o.inline = true) (hG : GrammarOKIS G = true)
    {n : String} {r : Rule} (hr : G.find n = some r) (hs : ((compileAll o G).find n).isSome = true) :
    (bodyOf o G r).fineS (compileAll o G) := by
  rw [bodyOf_opts (o' := inlOpts) hinl]
  exact okS_fineS (fun m hm => hasFuncI_eq hinl G m ▸ hm) _
    (by simpa [ruleOKIS, hasFuncI_of_find hinl hr hs] using Grammar.all_find hG hr)

/-! ### `World` -/

/-- `always` is computed by `compileAll` on `G` itself; its soundness for the expanded grammar is a
    hypothesis here and is discharged in `compileAll_world_inlineS'`.  `o.switch` is unconstrained:
    the emission does not read it. -/
theorem compileAll_world_inlineS {G : Grammar} {o : Opts} {cfg : Cfg} {inp : List Sym}
    (hinl : o.inline = true) (hast : o.ast = true)
    (hcfg : cfg.ast = true)
    (hinp : ∀ c ∈ inp, c ≠ END)
    (hG : GrammarOKIS G = true) (hL : LinkedOK G = true)
    (halways : ∀ n, alwaysSucceeds G n = true →
      ∀ p evs, ¬ Eval (expandG o G) cfg.rho inp (.name n) p .fail evs) :
    World (compileAll o G) cfg (realEnv o G) (expandG o G) inp :=
  compileAll_worldGen hast hcfg hinp hL (fun _ _ _ hr hs _ => GrammarOKIS.fineS hinl hG hr hs) halways

/-- The analysis runs on `G` (`plainS`: no `inl`; `ualt` allowed — it never "always succeeds"), and
    the expanded grammar has no failing derivation that `G` does not have (`Eval_expandG_rev`, whose
    relation `Exp` has a `ualt` case). -/
theorem compileAll_world_inlineS' {G : Grammar} {o : Opts} {cfg : Cfg} {inp : List Sym}
    (hinl : o.inline = true) (hast : o.ast = true)
    (hcfg : cfg.ast = true)
    (hinp : ∀ c ∈ inp, c ≠ END)
    (hG : GrammarOKIS G = true) (hL : LinkedOK G = true) (hplain : G.plainS) :
    World (compileAll o G) cfg (realEnv o G) (expandG o G) inp :=
  compileAll_world_inlineS hinl hast hcfg hinp hG hL
    (fun _ h p evs hE => alwaysSucceeds_soundS hplain h p evs (Eval_expandG_rev hE))

/-! ### Without `-switch` nodes: the special case -/

theorem compileAll_world_inline {G : Grammar} {o : Opts} {cfg : Cfg} {inp : List Sym}
    (hinl : o.inline = true) (hsw : o.switch = false) (hast : o.ast = true)
    (hcfg : cfg.ast = true)
    (hinp : ∀ c ∈ inp, c ≠ END)
    (hG : GrammarOKI G = true) (hL : LinkedOK G = true)
    (halways : ∀ n, alwaysSucceeds G n = true →
      ∀ p evs, ¬ Eval (expandG o G) cfg.rho inp (.name n) p .fail evs) :
    World (compileAll o G) cfg (realEnv o G) (expandG o G) inp := by
  have _ := hsw  -- not needed: the emission does not read `o.switch`
  exact compileAll_world_inlineS hinl hast hcfg hinp (GrammarOKI.toS hG) hL halways

theorem compileAll_world_inline' {G : Grammar} {o : Opts} {cfg : Cfg} {inp : List Sym}
    (hinl : o.inline = true) (hsw : o.switch = false) (hast : o.ast = true)
    (hcfg : cfg.ast = true)
    (hinp : ∀ c ∈ inp, c ≠ END)
    (hG : GrammarOKI G = true) (hL : LinkedOK G = true) (hplain : G.plain) :
    World (compileAll o G) cfg (realEnv o G) (expandG o G) inp :=
  compileAll_world_inline hinl hsw hast hcfg hinp hG hL
    (fun _ h p evs hE => alwaysSucceeds_sound hplain h p evs (Eval_expandG_rev hE))

end PegVerif

#print axioms PegVerif.compileAll_opts
#print axioms PegVerif.compileAll_world_inline
#print axioms PegVerif.compileAll_world_inline'
#print axioms PegVerif.GrammarOKI.toS
#print axioms PegVerif.compileAll_world_inlineS
#print axioms PegVerif.compileAll_world_inlineS'
