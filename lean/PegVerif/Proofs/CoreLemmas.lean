/-
  Facts about lists, strings and `if` that core does not state and that belong to no part of the
  model.
-/
namespace PegVerif

theorem head?_append_some {α : Type} {l l' : List α} {x : α} (h : (l ++ l').head? = some x) :
    l.head? = some x ∨ (l = [] ∧ l'.head? = some x) := by
  cases l with
  | nil => exact .inr ⟨rfl, h⟩
  | cons a as => exact .inl h

theorem sorted_getElem? {ps : List Nat} (hs : ps.Pairwise (fun a b => a ≤ b))
    {j k p q : Nat} (hjk : j ≤ k) (hj : ps[j]? = some p) (hk : ps[k]? = some q) : p ≤ q := by
  obtain ⟨hj', rfl⟩ := List.getElem?_eq_some_iff.mp hj
  obtain ⟨hk', rfl⟩ := List.getElem?_eq_some_iff.mp hk
  by_cases h : j = k
  · subst h; exact Nat.le_refl _
  · exact List.pairwise_iff_getElem.mp hs j k hj' hk' (by omega)

theorem drop_eq_cons {α : Type} {l r : List α} {i : Nat} {c : α} (h : l.drop i = c :: r) :
    ∃ hi : i < l.length, l[i] = c ∧ l.drop (i + 1) = r := by
  have hi : i < l.length := by
    have := congrArg List.length h
    simp at this
    omega
  rw [List.drop_eq_getElem_cons hi] at h
  injection h with h1 h2
  exact ⟨hi, h1, h2⟩

theorem str_append_inj {a b c d : String} (h : a ++ c = b ++ d)
    (hl : a.length = b.length ∨ c.length = d.length) : a = b ∧ c = d := by
  have h := congrArg String.toList h
  simp only [String.toList_append] at h
  simp only [← String.length_toList] at hl
  have := hl.elim (List.append_inj h) (List.append_inj' h)
  exact ⟨String.toList_inj.mp this.1, String.toList_inj.mp this.2⟩

theorem str_cancel_right {a b c : String} (h : a ++ c = b ++ c) : a = b :=
  (String.append_left_inj c).mp h

theorem wrap_inj (p s : String) {n n' : String} (h : p ++ n ++ s = p ++ n' ++ s) : n = n' :=
  (String.append_right_inj p).mp (str_cancel_right h)

theorem ite_eq_iff {α} {p : Prop} [Decidable p] {a b c : α} :
    (if p then a else b) = c ↔ (p ∧ a = c) ∨ (¬p ∧ b = c) := by
  split <;> simp [*]

theorem nodup_map_inj {α β} (f : α → β) (l : List α) (h : (l.map f).Nodup) :
    ∀ a ∈ l, ∀ b ∈ l, f a = f b → a = b := by
  have hp : l.Pairwise fun a b => f a ≠ f b := List.pairwise_map.mp h
  exact List.Pairwise.forall_of_forall_of_flip (R := fun a b => f a = f b → a = b)
    (fun _ _ _ => rfl) (hp.imp fun hne he => absurd he hne) (hp.imp fun hne he => absurd he.symm hne)

theorem extract_of_take {α} (l pre toks : List α) (a b : Nat)
    (h : l.take b = pre ++ toks) (hpre : pre.length = a) : l.extract a b = toks := by
  have : l.extract a b = (l.take b).drop a := by
    simp [List.extract, List.drop_take]
  rw [this, h, List.drop_left' hpre]

end PegVerif
