import PegVerif.Model.Syntax
/-
  What `postorder` / `postorderL` of `Model/Basic.lean` and `KeySet.has`, `Grammar.find`,
  `Grammar.body` of `Model/Syntax.lean` compute, and `SpansIn` for lists of tokens.  The lookup is
  Go's `t.Rules[name]`: the FIRST rule of that name.
-/
namespace PegVerif

@[simp] theorem postorderL_nil : postorderL [] = [] := by simp [postorderL]
@[simp] theorem postorderL_cons (k : TokTree) (ks : List TokTree) :
    postorderL (k :: ks) = k.postorder ++ postorderL ks := by simp [postorderL]
@[simp] theorem TokTree.postorder_node (t : Token) (kids : List TokTree) :
    (TokTree.node t kids).postorder = postorderL kids ++ [t] := by simp [TokTree.postorder]

theorem postorderL_append (a b : List TokTree) :
    postorderL (a ++ b) = postorderL a ++ postorderL b := by
  induction a with
  | nil => simp
  | cons k ks ih => simp [ih]

/-- The tokens are spans inside `[lo, hi]`: the proof-side spelling of "the tokens lie in the input",
    for events (`Eval_events_bound`) and forests (`WellNestedL.within`) alike. -/
def SpansIn (lo hi : Nat) (ts : List Token) : Prop := ∀ t ∈ ts, lo ≤ t.b ∧ t.b ≤ t.e ∧ t.e ≤ hi

theorem SpansIn.nil {lo hi : Nat} : SpansIn lo hi [] := fun _ h => by simp at h

theorem SpansIn.single {lo hi : Nat} {t : Token} (h1 : lo ≤ t.b) (h2 : t.b ≤ t.e) (h3 : t.e ≤ hi) :
    SpansIn lo hi [t] := fun x hx => by
  simp at hx
  subst hx
  exact ⟨h1, h2, h3⟩

/-- The second list may start later (it belongs to what follows in a sequence or repetition). -/
theorem SpansIn.append {lo mid hi : Nat} {a b : List Token} (ha : SpansIn lo hi a)
    (hb : SpansIn mid hi b) (h : lo ≤ mid) : SpansIn lo hi (a ++ b) := fun t ht => by
  rcases List.mem_append.mp ht with h' | h'
  · exact ha t h'
  · have := hb t h'
    omega

theorem KeySet.has_iff {K : KeySet} {c : Nat} :
    K.has c = true ↔ ∃ r ∈ K, r.1 ≤ c ∧ c ≤ r.2 := by
  simp only [KeySet.has, List.any_eq_true, Bool.and_eq_true, decide_eq_true_eq]

theorem KeySet.has_append {A B : KeySet} {c : Nat} :
    KeySet.has (A ++ B) c = (A.has c || B.has c) := by
  simp [KeySet.has, List.any_append]

theorem Grammar.find_spec {G : Grammar} {n : String} {r : Rule} (h : G.find n = some r) :
    r ∈ G.rules ∧ r.name = n := by
  unfold Grammar.find at h
  exact ⟨List.mem_of_find?_eq_some h, by simpa using List.find?_some h⟩

theorem Grammar.find_mem {G : Grammar} {n : String} {r : Rule} (h : G.find n = some r) :
    r ∈ G.rules :=
  (Grammar.find_spec h).1

theorem Grammar.find_name {G : Grammar} {n : String} {r : Rule} (h : G.find n = some r) :
    r.name = n :=
  (Grammar.find_spec h).2

theorem Grammar.find_head {G : Grammar} {first : Rule} {rest : List Rule}
    (h : G.rules = first :: rest) : G.find first.name = some first := by
  simp [Grammar.find, h]

theorem Grammar.find_of_nodup : ∀ {G : Grammar}, (G.rules.map (·.name)).Nodup →
    ∀ {r : Rule}, r ∈ G.rules → G.find r.name = some r
  | ⟨[]⟩, _, _, hr => nomatch hr
  | ⟨q :: qs⟩, hnd, r, hr => by
    simp only [List.map_cons, List.nodup_cons] at hnd
    cases hr with
    | head => simp [Grammar.find]
    | tail _ hr' =>
      have hne : q.name ≠ r.name := fun heq => hnd.1 (heq ▸ List.mem_map_of_mem hr')
      simpa [Grammar.find, hne] using Grammar.find_of_nodup (G := ⟨qs⟩) hnd.2 hr'

theorem Grammar.body_of_find {G : Grammar} {n : String} {r : Rule} (h : G.find n = some r) :
    G.body n = some r.body := by
  rw [Grammar.body, h]
  rfl

theorem Grammar.body_eq_none_of_find {G : Grammar} {n : String} (h : G.find n = none) :
    G.body n = none := by
  rw [Grammar.body, h]
  rfl

theorem Grammar.body_of_nodup {G : Grammar} (hnd : (G.rules.map (·.name)).Nodup) {r : Rule}
    (hr : r ∈ G.rules) : G.body r.name = some r.body :=
  Grammar.body_of_find (Grammar.find_of_nodup hnd hr)

theorem Grammar.body_mem {G : Grammar} {n b} (h : G.body n = some b) :
    ∃ r ∈ G.rules, r.name = n ∧ r.body = b := by
  obtain ⟨r, hf, hb⟩ := Option.map_eq_some_iff.mp h
  exact ⟨r, Grammar.find_mem hf, Grammar.find_name hf, hb⟩

theorem Grammar.body_all {G : Grammar} {P : Expr → Bool} (h : G.rules.all (fun r => P r.body) = true)
    {n b} (hb : G.body n = some b) : P b = true := by
  obtain ⟨r, hr, _, rfl⟩ := Grammar.body_mem hb
  exact List.all_eq_true.mp h r hr

end PegVerif
