import PegVerif.Proofs.RefineMode
/-
  Refinement theorem — the cases that are the same for every mode: leaves, sequence, lookahead,
  optional; a token-producing wrapper given what its recording instructions do to the state; a rule
  call given the callee's run.
-/
namespace PegVerif

/-- Normal form of emitted code: a cons list with `++` re-associated. -/
macro "norm_code" " at " h:ident : tactic =>
  `(tactic| simp only [compile, List.cons_append, List.nil_append, List.append_assoc] at $h:ident ⊢)

/-- Membership of a jump target in emitted code. -/
macro "jmp" : tactic =>
  `(tactic| simp [jumps_cons, jumps_append, jumps_nil, Instr.target?, *])

variable {M : Mode} {ua : Bool} {P : Program} {cfg : Cfg} {env : CEnv} {G : Grammar} {inp : List Sym}

/-- A printed label: where jumps to it arrive. -/
theorem CodeAt.label {code pc l c} (hc : CodeAt code pc (env.lbl l ++ c)) (hu : env.used l = true)
    (huniq : Uniq code) : labelPos code l = some pc ∧ CodeAt code pc (Instr.label l :: c) := by
  simp only [CEnv.lbl, hu, ↓reduceIte] at hc
  exact ⟨labelPos_of_uniq huniq hc, hc⟩

/-! ### leaves -/

/-- A terminal that matches: its test (unless elided) falls through, then `position++`. -/
theorem goodG_advance {e : Expr} {p : Nat}
    (hrun : ∀ ko pd pmk st s f, s.pos = p →
      runs cfg inp (compile env e ko pd pmk st).code s f = some ({ s with pos := s.pos + 1 }, f)) :
    GoodG M ua P cfg env inp e p (.ok (p + 1) []) [] := by
  intro ko pd pmk st code pc s f hc hp _
  refine ⟨{ s with pos := s.pos + 1 }, f, ?_, hc.runs (hrun ko pd pmk st s f hp.pos)⟩
  simpa [hp.pos] using SuccG.move (M := M) (lbl := st.label) (f := f) (s.pos + 1) hp.inv

theorem goodG_chr_ok {p c} (h : inp[p]? = some c) : GoodG M ua P cfg env inp (.chr c) p (.ok (p + 1) []) [] :=
  goodG_advance fun ko pd pmk st s f hs => by
    have hb : (bufOf inp)[s.pos]? = some c := by rw [hs, buf_lt (inp_lt_of_some h), h]
    by_cases hel : (pd && !pmk) = true <;> simp [compile, runs, stepLocal, hel, hb]

theorem goodG_rng_ok {p lo hi c} (h : inp[p]? = some c) (hl : lo ≤ c) (hh : c ≤ hi) :
    GoodG M ua P cfg env inp (.rng lo hi) p (.ok (p + 1) []) [] :=
  goodG_advance fun ko pd pmk st s f hs => by
    have hb : (bufOf inp)[s.pos]? = some c := by rw [hs, buf_lt (inp_lt_of_some h), h]
    have hnot : ¬ (c < lo ∨ c > hi) := by omega
    by_cases hel : (pd && !pmk) = true <;> simp [compile, runs, stepLocal, hel, hb, hnot]

theorem goodG_dot_ok (hinp : ∀ c ∈ inp, c ≠ END) {p c} (h : inp[p]? = some c) :
    GoodG M ua P cfg env inp .dot p (.ok (p + 1) []) [] :=
  goodG_advance fun ko pd pmk st s f hs => by
    have hb : (bufOf inp)[s.pos]? = some c := by rw [hs, buf_lt (inp_lt_of_some h), h]
    have hcE : c ≠ END := hinp c (List.mem_of_getElem? h)
    by_cases hel : pd = true <;> simp [compile, runs, stepLocal, hel, hb, hcE]

/-- A test that fails: a single jump to `ko`. -/
theorem goodG_jump {e : Expr} {p : Nat}
    (h : ∀ ko pd pmk st s f, Lead inp p pd pmk e → s.pos = p → p ≤ inp.length →
      ∃ i c, (compile env e ko pd pmk st).code = i :: c ∧ i.target? = some ko ∧
        stepLocal cfg inp i s f = .jump ko s f) :
    GoodG M ua P cfg env inp e p .fail [] := by
  intro ko pd pmk st code pc s f hc hp hlead
  obtain ⟨i, c, hcode, ht, hstep⟩ := h ko pd pmk st s f hlead hp.pos hp.ple
  rw [hcode] at hc ⊢
  exact ⟨s, f, FailedG.refl hp.inv, by simp [jumps_cons, ht], fun pcko hl => Steps.jump hc.head.1 hstep hl⟩

theorem goodG_chr_fail {p c} (hcE : c ≠ END) (h : inp[p]? ≠ some c) :
    GoodG M ua P cfg env inp (.chr c) p .fail [] :=
  goodG_jump fun ko pd pmk st s f hlead hs hple => by
    have hel : (pd && !pmk) = false := by
      -- an elided test would pass (`Lead`), so the semantics could not fail
      apply Bool.eq_false_iff.mpr
      intro hel
      simp only [Bool.and_eq_true, Bool.not_eq_true'] at hel
      have hpk : peek inp p = c := hlead hel.1 hel.2
      cases hx : inp[p]? with
      | none => rw [peek_of_none hx] at hpk; exact hcE hpk.symm
      | some x => rw [peek_of_some hx] at hpk; subst hpk; exact h hx
    refine ⟨.ifNeChr c ko, [.inc], by simp [compile, hel], rfl, ?_⟩
    rcases buf_cases hple with ⟨x, hx, hbx⟩ | ⟨_, _, hbe⟩
    · have hne : x ≠ c := by intro e; subst e; exact h hx
      rw [← hs] at hbx; simp [stepLocal, hbx, hne]
    · rw [← hs] at hbe; simp [stepLocal, hbe, Ne.symm hcE]

theorem goodG_dot_fail {p} (h : inp[p]? = none) : GoodG M ua P cfg env inp .dot p .fail [] :=
  goodG_jump fun ko pd pmk st s f hlead hs hple => by
    have hel : pd = false := by
      apply Bool.eq_false_iff.mpr
      intro hel
      have hlt : p < inp.length := hlead hel
      simp at h; omega
    refine ⟨.ifNotDot ko, [], by simp [compile, hel], rfl, ?_⟩
    rcases buf_cases hple with ⟨x, hx, _⟩ | ⟨_, _, hbe⟩
    · rw [h] at hx; cases hx
    · rw [← hs] at hbe; simp [stepLocal, hbe]

theorem goodG_rng_fail {p lo hi} (hhi : hi < END) (h : ∀ c, inp[p]? = some c → c < lo ∨ hi < c) :
    GoodG M ua P cfg env inp (.rng lo hi) p .fail [] :=
  goodG_jump fun ko pd pmk st s f hlead hs hple => by
    have hel : (pd && !pmk) = false := by
      apply Bool.eq_false_iff.mpr
      intro hel
      simp only [Bool.and_eq_true, Bool.not_eq_true'] at hel
      have hpk : lo ≤ peek inp p ∧ peek inp p ≤ hi := hlead hel.1 hel.2
      cases hx : inp[p]? with
      | none => rw [peek_of_none hx] at hpk; omega
      | some x => rw [peek_of_some hx] at hpk; have := h x hx; omega
    refine ⟨.ifNotRng lo hi ko, [.inc], by simp [compile, hel], rfl, ?_⟩
    rcases buf_cases hple with ⟨x, hx, hbx⟩ | ⟨_, _, hbe⟩
    · have hx' : x < lo ∨ x > hi := h x hx
      rw [← hs] at hbx; simp [stepLocal, hbx, hx']
    · have : END < lo ∨ END > hi := Or.inr hhi
      rw [← hs] at hbe; simp [stepLocal, hbe, this]

theorem goodG_pred_fail {p c} (h : cfg.rho c p = false) : GoodG M ua P cfg env inp (.pred c) p .fail [] :=
  goodG_jump fun ko pd pmk st s f _ hs _ =>
    ⟨.ifNotPred c ko, [], by simp [compile], rfl, by simp [stepLocal, hs, h]⟩

/-- Code that only falls through and leaves the state alone. -/
theorem goodG_skip {e : Expr} {p : Nat}
    (hrun : ∀ ko pd pmk st s f, s.pos = p → runs cfg inp (compile env e ko pd pmk st).code s f = some (s, f)) :
    GoodG M ua P cfg env inp e p (.ok p []) [] := by
  intro ko pd pmk st code pc s f hc hp _
  exact ⟨s, f, by simpa [hp.pos] using SuccG.refl (M := M) (lbl := st.label) (f := f) hp.inv,
    hc.runs (hrun ko pd pmk st s f hp.pos)⟩

theorem goodG_pred_ok {p c} (h : cfg.rho c p = true) : GoodG M ua P cfg env inp (.pred c) p (.ok p []) [] :=
  goodG_skip fun ko pd pmk st s f hs => by simp [compile, runs, stepLocal, hs, h]

theorem goodG_act {p c} : GoodG M ua P cfg env inp (.act c) p (.ok p []) [] :=
  goodG_skip fun _ _ _ _ _ _ _ => by simp [compile, runs]

theorem goodG_nil {p} : GoodG M ua P cfg env inp .nil p (.ok p []) [] :=
  goodG_skip fun _ _ _ _ _ _ _ => by simp [compile, runs]

theorem goodG_seq_nil {p} : GoodG M ua P cfg env inp (.seq []) p (.ok p []) [] :=
  goodG_skip fun _ _ _ _ _ _ _ => by simp [compile, compileSeq, runs]

theorem goodG_inl {n e p res evs} (ih : GoodG M ua P cfg env inp e p res evs) :
    GoodG M ua P cfg env inp (.inl n e) p res evs := by
  intro ko pd pmk st code pc s f hc hp hlead
  have := ih ko pd pmk st code pc s f (by simpa [compile] using hc) hp hlead
  simpa [compile] using this

/-! ### sequence
  `Lead` of a node that hands the flags down is by definition `Lead` of the operand executed first, so
  `hlead` is passed on as it is (here and for choice, `?`, inlined names and the token wrappers). -/

theorem goodG_seq_fail {e es p evs} (ih : GoodG M ua P cfg env inp e p .fail evs) :
    GoodG M ua P cfg env inp (.seq (e :: es)) p .fail evs := by
  intro ko pd pmk st code pc s f hc hp hlead
  cases es with
  | nil =>
    simp only [compile, compileSeq] at hc ⊢
    exact ih ko pd pmk st code pc s f hc hp hlead
  | cons e' es' =>
    simp only [compile, compileSeq] at hc ⊢
    obtain ⟨s2, f2, hF, hj, hst⟩ := ih ko pd pmk st code pc s f hc.left hp hlead
    exact ⟨s2, f2, hF, by jmp, hst⟩

theorem goodG_seq_ok_fail {e es p p1 f1 evs1 evs2}
    (hev : Eval G cfg.rho inp e p (.ok p1 f1) evs1)
    (hev2 : Eval G cfg.rho inp (.seq es) p1 .fail evs2)
    (ih1 : GoodG M ua P cfg env inp e p (.ok p1 f1) evs1)
    (ih2 : GoodG M ua P cfg env inp (.seq es) p1 .fail evs2) :
    GoodG M ua P cfg env inp (.seq (e :: es)) p .fail (evs1 ++ evs2) := by
  intro ko pd pmk st code pc s f hc hp hlead
  cases es with
  | nil => cases hev2
  | cons e' es' =>
    simp only [compile, compileSeq] at hc ⊢
    obtain ⟨s1, fr1, hS, hst1⟩ := ih1 ko pd pmk st code pc s f hc.left hp hlead
    obtain ⟨s2, f2, hF, hj, hst2⟩ := ih2 ko false false _ code _ s1 fr1
      (by simpa only [compile] using hc.right) (hp.after hev hS) (Lead_false _ _ _ _)
    refine ⟨s2, f2, hS.trans_failed hp.inv hF (compile_mono _ _ _ _ _ _), ?_, ?_⟩
    · simp only [compile] at hj; simp [jumps_append, hj]
    · intro pcko hl; exact hst1.trans (hst2 pcko hl)

theorem goodG_seq_ok {e es p p1 f1 evs1 p2 f2 evs2}
    (hev : Eval G cfg.rho inp e p (.ok p1 f1) evs1)
    (hev2 : Eval G cfg.rho inp (.seq es) p1 (.ok p2 f2) evs2)
    (ih1 : GoodG M ua P cfg env inp e p (.ok p1 f1) evs1)
    (ih2 : GoodG M ua P cfg env inp (.seq es) p1 (.ok p2 f2) evs2) :
    GoodG M ua P cfg env inp (.seq (e :: es)) p (.ok p2 (f1 ++ f2)) (evs1 ++ evs2) := by
  intro ko pd pmk st code pc s f hc hp hlead
  cases es with
  | nil =>
    cases hev2
    simp only [compile, compileSeq] at hc ⊢
    simpa using ih1 ko pd pmk st code pc s f hc hp hlead
  | cons e' es' =>
    simp only [compile, compileSeq] at hc ⊢
    obtain ⟨s1, fr1, hS, hst1⟩ := ih1 ko pd pmk st code pc s f hc.left hp hlead
    obtain ⟨s2, fr2, hS2, hst2⟩ := ih2 ko false false _ code _ s1 fr1
      (by simpa only [compile] using hc.right) (hp.after hev hS) (Lead_false _ _ _ _)
    refine ⟨s2, fr2, ?_, ?_⟩
    · rw [postorderL_append]
      exact hS.trans hS2 (compile_mono _ _ _ _ _ _)
    · simp only [compile] at hst2
      exact (hst1.trans hst2).cast (by simp [List.length_append]; omega)

/-! ### lookahead and optional: `{ save n; body; … restore n }` -/

/-- The frame after the `save` that opens a block: slot `n` holds the entry state. -/
theorem saved_after (M : Mode) {lbl} {s : St} {f f' : Frame} {n : Nat} (hn : n < lbl)
    (h : ∀ k, k < lbl → f' k = (f.set n (s.pos, s.ti)) k) : M.Saved (f' n) s := by
  rw [h n hn]; simpa [Frame.set] using M.saved_mk s

theorem goodG_peekFor_ok {e p p1 f1 evs} (ih : GoodG M ua P cfg env inp e p (.ok p1 f1) evs) :
    GoodG M ua P cfg env inp (.peekFor e) p (.ok p []) evs := by
  intro ko pd pmk st code pc s f hc hp _
  simp only [compile, List.append_assoc] at hc ⊢
  obtain ⟨s1, fr1, hS, hst⟩ := ih ko false false _ code _ s (f.set st.label (s.pos, s.ti))
    hc.right.left hp (Lead_false _ _ _ _)
  have hR := (hS.drop hp.inv).restore (saved_after M (Nat.lt_succ_self _) hS.frame)
  refine ⟨_, fr1, by simpa [hp.pos] using hR.unset (Nat.le_succ _), ?_⟩
  exact ((hc.left.runs (s := s) (f := f) rfl).trans (hst.trans (hc.right.right.runs rfl))).cast
    (by simp [List.length_append]; omega)

theorem goodG_peekFor_fail {e p evs} (ih : GoodG M ua P cfg env inp e p .fail evs) :
    GoodG M ua P cfg env inp (.peekFor e) p .fail evs := by
  intro ko pd pmk st code pc s f hc hp _
  simp only [compile, List.append_assoc] at hc ⊢
  obtain ⟨s2, fr2, hF, hj, hst⟩ := ih ko false false _ code _ s (f.set st.label (s.pos, s.ti))
    hc.right.left hp (Lead_false _ _ _ _)
  exact ⟨s2, fr2, hF.unset (Nat.le_succ _), by jmp,
    fun pcko hl => (hc.left.runs (s := s) (f := f) rfl).trans (hst pcko hl)⟩

theorem goodG_peekNot_ok {e p evs} (ih : GoodG M ua P cfg env inp e p .fail evs) :
    GoodG M ua P cfg env inp (.peekNot e) p (.ok p []) evs := by
  intro ko pd pmk st code pc s f hc hp _
  simp only [compile, List.append_assoc] at hc ⊢
  -- `{ save ok; body; goto ko; [ok:] restore ok }`
  obtain ⟨hsave, hc⟩ := hc.split
  obtain ⟨hbody, hc⟩ := hc.split
  obtain ⟨_, hlab⟩ := hc.split
  obtain ⟨s2, fr2, hF, hj, hst⟩ := ih st.label false false _ code _ s (f.set st.label (s.pos, s.ti))
    hbody hp (Lead_false _ _ _ _)
  have hu : env.used st.label = true := hp.usedIn hbody hj
  obtain ⟨hlp, hcl⟩ := hlab.label hu hp.uniq
  have hR := hF.restore (saved_after M (Nat.lt_succ_self _) hF.frame)
  refine ⟨_, fr2, by simpa [hp.pos] using hR.unset (Nat.le_succ _), ?_⟩
  exact ((hsave.runs (s := s) (f := f) rfl).trans ((hst _ hlp).trans (hcl.runs rfl))).cast
    (by simp [List.length_append, CEnv.lbl, hu]; omega)

theorem goodG_peekNot_fail {e p p1 f1 evs} (ih : GoodG M ua P cfg env inp e p (.ok p1 f1) evs) :
    GoodG M ua P cfg env inp (.peekNot e) p .fail evs := by
  intro ko pd pmk st code pc s f hc hp _
  simp only [compile, List.append_assoc] at hc ⊢
  -- `{ save ok; body; goto ko; [ok:] restore ok }`
  obtain ⟨hsave, hc⟩ := hc.split
  obtain ⟨hbody, hc⟩ := hc.split
  obtain ⟨hgoto, _⟩ := hc.split
  obtain ⟨s1, fr1, hS, hst⟩ := ih st.label false false _ code _ s (f.set st.label (s.pos, s.ti))
    hbody hp (Lead_false _ _ _ _)
  refine ⟨s1, fr1, (hS.drop hp.inv).unset (Nat.le_succ _),
    by jmp, fun pcko hlk => ?_⟩
  exact (hsave.runs (s := s) (f := f) rfl).trans
    (hst.trans (Steps.jump hgoto.head.1 (by simp [stepLocal]) hlk))

theorem goodG_query_ok {e p p1 f1 evs} (ih : GoodG M ua P cfg env inp e p (.ok p1 f1) evs) :
    GoodG M ua P cfg env inp (.query e) p (.ok p1 f1) evs := by
  intro ko pd pmk st code pc s f hc hp hlead
  simp only [compile, List.append_assoc] at hc ⊢
  have hu : env.used (st.label + 1) = true :=
    hp.usedIn hc (by jmp)
  -- `{ save qko; body; goto qok; [qko:] restore qko } [qok:]`
  obtain ⟨hsave, hc⟩ := hc.split
  obtain ⟨hbody, hc⟩ := hc.split
  obtain ⟨hgoto, hc⟩ := hc.split
  obtain ⟨_, hc⟩ := hc.split
  obtain ⟨_, hqok⟩ := hc.split
  obtain ⟨s1, fr1, hS, hst⟩ := ih st.label pd pmk _ code _ s (f.set st.label (s.pos, s.ti))
    hbody hp hlead
  -- `goto qok` jumps over the restore
  obtain ⟨hlp, hcl⟩ := CodeAt.label (c := []) (by simpa using hqok) hu hp.uniq
  refine ⟨s1, fr1, hS.unset (Nat.le_add_right _ _), ?_⟩
  exact ((hsave.runs (s := s) (f := f) rfl).trans (hst.trans
    ((Steps.jump hgoto.head.1 (by simp [stepLocal]) hlp).trans (hcl.runs rfl)))).cast
    (by simp [List.length_append, CEnv.lbl, hu]; omega)

theorem goodG_query_none {e p evs} (ih : GoodG M ua P cfg env inp e p .fail evs) :
    GoodG M ua P cfg env inp (.query e) p (.ok p []) evs := by
  intro ko pd pmk st code pc s f hc hp hlead
  simp only [compile, List.append_assoc] at hc ⊢
  -- `{ save qko; body; goto qok; [qko:] restore qko } [qok:]`
  obtain ⟨hsave, hc⟩ := hc.split
  obtain ⟨hbody, hc⟩ := hc.split
  obtain ⟨_, hlab⟩ := hc.split
  obtain ⟨s2, fr2, hF, hj, hst⟩ := ih st.label pd pmk _ code _ s (f.set st.label (s.pos, s.ti))
    hbody hp hlead
  have hu : env.used st.label = true := hp.usedIn hbody hj
  obtain ⟨hlp, hcl⟩ := hlab.label hu hp.uniq
  have hR := hF.restore (saved_after M (by simp) hF.frame)
  refine ⟨_, fr2, by simpa [hp.pos] using hR.unset (Nat.le_add_right _ _), ?_⟩
  -- the label `qok` after the block is printed iff the body can succeed
  have hrun : runs cfg inp (Instr.label st.label :: ([Instr.restore st.label, Instr.be] ++ env.lbl (st.label + 1)))
      s2 fr2 = some ({ s2 with pos := (fr2 st.label).1, ti := (fr2 st.label).2 }, fr2) := by
    simp [runs, stepLocal, runs_lbl]
  exact ((hsave.runs (s := s) (f := f) rfl).trans ((hst _ hlp).trans (hcl.runs hrun))).cast
    (by simp [List.length_append, CEnv.lbl, hu]; omega)

/-! ### token-producing wrappers `{ savePos n; body; … }` -/

theorem goodG_wrap_fail {w e : Expr} {p evs} {tail : CSt → Code}
    (hw : ∀ ko pd pmk st, (compile env w ko pd pmk st).code =
      [.bb, .savePos st.label] ++ ((compile env e ko pd pmk { st with label := st.label + 1 }).code ++ tail st))
    (ih : GoodG M ua P cfg env inp e p .fail evs)
    (hl : ∀ pd pmk, Lead inp p pd pmk w → Lead inp p pd pmk e := by exact fun _ _ h => h) :
    GoodG M ua P cfg env inp w p .fail evs := by
  intro ko pd pmk st code pc s f hc hp hlead
  rw [hw] at hc ⊢
  obtain ⟨s2, fr2, hF, hj, hst⟩ := ih ko pd pmk _ code _ s (f.set st.label (s.pos, (f st.label).2))
    hc.right.left hp (hl _ _ hlead)
  exact ⟨s2, fr2, hF.unset (Nat.le_succ _), by jmp,
    fun pcko hlk => (hc.left.runs (s := s) (f := f) rfl).trans (hst pcko hlk)⟩

/-- A token-producing wrapper succeeds: body, then the instructions `tail st` that record the token,
    given what they do to a state (`htail`; slot `st.label` holds the position where the wrapper
    started).  `Lead` of a wrapper is by definition `Lead` of its operand, whence the default of `hl`. -/
theorem goodG_wrap_ok {w e : Expr} {r p p1 f1 evs} {tail : CSt → Code}
    (hw : ∀ ko pd pmk st, (compile env w ko pd pmk st).code =
      [.bb, .savePos st.label] ++ ((compile env e ko pd pmk { st with label := st.label + 1 }).code ++ tail st))
    (hev : Eval G cfg.rho inp e p (.ok p1 f1) evs)
    (ih : GoodG M ua P cfg env inp e p (.ok p1 f1) evs)
    (htail : ∀ st s1 fr, s1.pos = p1 → (fr st.label).1 = p → p ≤ p1 → p1 ≤ inp.length → M.Inv s1 →
      ∃ s2, runs cfg inp (tail st) s1 fr = some (s2, fr) ∧ s2.pos = p1 ∧ M.Ok s1 s2 [⟨r, p, p1⟩] [⟨r, p, p1⟩])
    (hl : ∀ pd pmk, Lead inp p pd pmk w → Lead inp p pd pmk e := by exact fun _ _ h => h) :
    GoodG M ua P cfg env inp w p (.ok p1 [.node ⟨r, p, p1⟩ f1]) (evs ++ [⟨r, p, p1⟩]) := by
  intro ko pd pmk st code pc s f hc hp hlead
  rw [hw] at hc ⊢
  obtain ⟨s1, fr1, hS, hst⟩ := ih ko pd pmk _ code _ s (f.set st.label (s.pos, (f st.label).2))
    hc.right.left hp (hl _ _ hlead)
  have hfr : (fr1 st.label).1 = p := by
    rw [hS.frame st.label (Nat.lt_succ_self _)]; simp [Frame.set, hp.pos]
  obtain ⟨hpp1, hp1⟩ := Eval_bound hev hp.ple
  obtain ⟨s2, hrun, hpos2, hok⟩ := htail st s1 fr1 hS.pos hfr hpp1 hp1 hS.inv
  refine ⟨s2, fr1, ?_, ?_⟩
  · simpa using (hS.trans (lbl1 := st.label + 1) ⟨hpos2, hok, fun _ _ => rfl⟩ (Nat.le_refl _)).unset
      (Nat.le_succ _)
  · exact ((hc.left.runs (s := s) (f := f) rfl).trans (hst.trans (hc.right.right.runs hrun))).cast
      (by simp [List.length_append]; omega)

/-- Straight-line code that records one empty token at the current position (an action rule). -/
theorem goodG_emit {w : Expr} {r p}
    (h : ∀ ko pd pmk st s f, s.pos = p → M.Inv s → ∃ s2, runs cfg inp (compile env w ko pd pmk st).code s f = some (s2, f) ∧
      s2.pos = p ∧ M.Ok s s2 [⟨r, p, p⟩] [⟨r, p, p⟩]) :
    GoodG M ua P cfg env inp w p (.ok p [.node ⟨r, p, p⟩ []]) [⟨r, p, p⟩] := by
  intro ko pd pmk st code pc s f hc hp _
  obtain ⟨s2, hrun, hpos2, hok⟩ := h ko pd pmk st s f hp.pos hp.inv
  exact ⟨s2, f, ⟨hpos2, by simpa using hok, fun _ _ => rfl⟩, hc.runs hrun⟩

/-! ### rule calls -/

/-- A call `_rules[ruleN]()`, given what a run of the callee does.  Without failure branch
    (`CheckAlwaysSucceeds`) the callee must not fail. -/
theorem goodG_call {n : String} {cr : Code} {p res evs} (hfind : P.find n = some cr)
    (halways : env.always n = true → res ≠ .fail)
    (hcallee : ∀ s, s.pos = p → p ≤ inp.length → M.Inv s →
      ∃ o s', Exec P cfg inp cr 0 s Frame.empty (o, s') ∧ RuleG M s p res evs o s') :
    GoodG M ua P cfg env inp (.name n) p res evs := by
  intro ko pd pmk st code pc s f hc hp _
  obtain ⟨o, s', hex, hR⟩ := hcallee s hp.pos hp.ple hp.inv
  obtain rfl := hR.out
  simp only [compile] at hc ⊢
  cases res with
  | ok p' forest =>
    refine ⟨s', f, ⟨hR.pos, hR.ok, fun _ _ => rfl⟩, ?_⟩
    by_cases ha : env.always n = true
    · simp only [ha, ↓reduceIte] at hc ⊢
      exact fun res hres => Exec.callOk (l := none) hc.head.1 (by simp [stepLocal]) hfind hex (Or.inl rfl) hres
    · simp only [ha] at hc ⊢
      exact fun res hres => Exec.callOk (l := some ko) hc.head.1 (by simp [stepLocal]) hfind hex (Or.inl rfl) hres
  | fail =>
    by_cases ha : env.always n = true
    · exact absurd rfl (halways ha)
    · simp only [ha] at hc ⊢
      -- a failed rule is a success that is dropped
      exact ⟨s', f, SuccG.drop hp.inv ⟨hR.pos, hR.ok, fun _ _ => rfl⟩, by simp [jumps, Instr.target?],
        fun pcko hl res hres => Exec.callFail hc.head.1 (by simp [stepLocal]) hfind hex hl hres⟩

end PegVerif
