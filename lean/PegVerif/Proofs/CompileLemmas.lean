import PegVerif.Proofs.CodeLemmas
import PegVerif.Model.Sem
/-
  What `compile` does whatever the environment (`used`, `ast`; `dry` is never read), so that the dry pass and the
  real pass agree on it: a node advances the counters by an amount that only depends on the
  expression (`Expr.alloc`), and it prints the same jumps.  Then two facts about single clauses:
  `parentMultipleKey` is only read together with `parentDetect`, and the code of `push`/`ipush` around
  anything but a bare action (`compile_push_nonact`, `compile_ipush_nonact`).
-/
namespace PegVerif

mutual
  /-- The labels and switch numbers `compile` draws for an expression.  `e+` compiles its body twice
      (`2 * …`); an `alt` takes one label for itself and one failure label for every alternative but
      the last (`es.length - 1`, in `compileAlt`); a `ualt` takes a label and a switch number. -/
  def Expr.alloc : Expr → CSt
    | .inl _ e => e.alloc
    | .push e _ | .ipush e _ | .peekFor e | .peekNot e => ⟨e.alloc.label + 1, e.alloc.sw⟩
    | .query e | .star e => ⟨e.alloc.label + 2, e.alloc.sw⟩
    | .plus e => ⟨2 * e.alloc.label + 2, 2 * e.alloc.sw⟩
    | .seq es => allocL es
    | .alt es => ⟨(allocL es).label + 1 + (es.length - 1), (allocL es).sw⟩
    | .ualt _ es => ⟨(allocL es).label + 1, (allocL es).sw + 1⟩
    | _ => ⟨0, 0⟩
  def allocL : List Expr → CSt
    | [] => ⟨0, 0⟩
    | e :: es => ⟨e.alloc.label + (allocL es).label, e.alloc.sw + (allocL es).sw⟩
end

def CSt.add (a b : CSt) : CSt := ⟨a.label + b.label, a.sw + b.sw⟩

theorem CSt.eq_add_iff {a b c : CSt} :
    a = b.add c ↔ a.label = b.label + c.label ∧ a.sw = b.sw + c.sw := by
  cases a
  simp [CSt.add]

/-- The last clause: `compileAlt` allocates one failure label for every alternative but the last.
    Every case is the definition unfolded and arithmetic on the induction hypotheses, which hold at
    any start counters: for `e+` the second copy of the body starts where the first stopped, and its
    hypothesis applies there (hence `2 * e.alloc`). -/
theorem compile_st_all (env : CEnv) :
    (∀ e ko pd pmk st, (compile env e ko pd pmk st).st = st.add e.alloc) ∧
    (∀ es ko pd pmk st, (compileSeq env es ko pd pmk st).st = st.add (allocL es)) ∧
    (∀ ks es sw i done st, (compileCases env ks es sw i done st).st = st.add (allocL es)) ∧
    (∀ es ok ko pd pmk st, (compileAlt env es ok ko pd pmk st).st =
      st.add ⟨(allocL es).label + (es.length - 1), (allocL es).sw⟩) := by
  apply compile.mutual_induct env
  all_goals intros
  -- `← List.length_eq_zero_iff, imp_false` serve two cases only, the third clauses of `compileSeq` and
  -- `compileAlt` (`e :: es` with `es ≠ []`): they come with "no earlier clause matched",
  -- `es = [] → False`; as `¬ es.length = 0` it is a fact `omega` can use for `es.length - 1`
  all_goals simp +zetaDelta only [compile, compileSeq, compileAlt, compileCases, Expr.alloc, allocL,
    CSt.eq_add_iff, List.length_cons, List.length_nil, ← List.length_eq_zero_iff, imp_false, true_and] at *
  all_goals omega

theorem compile_st (env : CEnv) (e : Expr) (ko : Nat) (pd pmk : Bool) (st : CSt) :
    (compile env e ko pd pmk st).st = st.add e.alloc :=
  (compile_st_all env).1 e ko pd pmk st

theorem compileSeq_st (env : CEnv) (es : List Expr) (ko : Nat) (pd pmk : Bool) (st : CSt) :
    (compileSeq env es ko pd pmk st).st = st.add (allocL es) :=
  (compile_st_all env).2.1 es ko pd pmk st

theorem compileCases_st (env : CEnv) (ks : List KeySet) (es : List Expr) (sw i done : Nat) (st : CSt) :
    (compileCases env ks es sw i done st).st = st.add (allocL es) :=
  (compile_st_all env).2.2.1 ks es sw i done st

theorem compileAlt_st (env : CEnv) (es : List Expr) (ok ko : Nat) (pd pmk : Bool) (st : CSt) :
    (compileAlt env es ok ko pd pmk st).st =
      st.add ⟨(allocL es).label + (es.length - 1), (allocL es).sw⟩ :=
  (compile_st_all env).2.2.2 es ok ko pd pmk st

theorem compile_mono (env : CEnv) : ∀ (e : Expr) (ko : Nat) (pd pmk : Bool) (st : CSt),
    st.label ≤ (compile env e ko pd pmk st).st.label := fun e ko pd pmk st => by
  rw [compile_st]
  exact Nat.le_add_right ..

theorem compile_st_indep (env env' : CEnv) :
    ∀ (e : Expr) (ko ko' : Nat) (pd pmk pd' pmk' : Bool) (st : CSt),
    (compile env e ko pd pmk st).st = (compile env' e ko' pd' pmk' st).st :=
  fun e _ _ _ _ _ _ st => by rw [compile_st, compile_st]

theorem compileSeq_st_indep (env env' : CEnv) :
    ∀ (es : List Expr) (ko ko' : Nat) (pd pmk pd' pmk' : Bool) (st : CSt),
    (compileSeq env es ko pd pmk st).st = (compileSeq env' es ko' pd' pmk' st).st :=
  fun es _ _ _ _ _ _ st => by rw [compileSeq_st, compileSeq_st]

theorem compileAlt_st_indep (env env' : CEnv) :
    ∀ (es : List Expr) (ok ok' ko ko' : Nat) (pd pmk pd' pmk' : Bool) (st : CSt),
    (compileAlt env es ok ko pd pmk st).st = (compileAlt env' es ok' ko' pd' pmk' st).st :=
  fun es _ _ _ _ _ _ _ _ st => by rw [compileAlt_st, compileAlt_st]

theorem compileCases_st_indep (env env' : CEnv) :
    ∀ (ks : List KeySet) (es : List Expr) (sw i done done' : Nat) (st : CSt),
    (compileCases env ks es sw i done st).st = (compileCases env' ks es sw i done' st).st :=
  fun ks es _ _ _ _ st => by rw [compileCases_st, compileCases_st]

/-! ### The jumps do not depend on the environment -/

mutual
  /-- No `-switch` node: a hypothesis of `compileSeq_jumps_indep`, `compileAlt_jumps_indep` that the
      equality does not need. -/
  def Expr.noUalt : Expr → Bool
    | .ualt _ _ => false
    | .inl _ e => e.noUalt
    | .seq es => noUaltL es
    | .alt es => noUaltL es
    | .peekFor e => e.noUalt
    | .peekNot e => e.noUalt
    | .query e => e.noUalt
    | .star e => e.noUalt
    | .plus e => e.noUalt
    | .push e _ => e.noUalt
    | .ipush e _ => e.noUalt
    | _ => true
  def noUaltL : List Expr → Bool
    | [] => true
    | e :: es => e.noUalt && noUaltL es
end

/-- For every expression, `ualt` included: the environment decides which labels, `break`s and AST
    instructions are printed, and none of these has a target.  (`e+` and the lists compile a second
    fragment from the counters the first one left, which are the same in both environments:
    `compile_st_indep`.) -/
theorem compile_jumps_eq_all (env env' : CEnv) (ha : env.always = env'.always) :
    (∀ e ko pd pmk st,
      jumps (compile env e ko pd pmk st).code = jumps (compile env' e ko pd pmk st).code) ∧
    (∀ es ko pd pmk st,
      jumps (compileSeq env es ko pd pmk st).code = jumps (compileSeq env' es ko pd pmk st).code) ∧
    (∀ ks es sw i done st,
      jumps (compileCases env ks es sw i done st).code =
        jumps (compileCases env' ks es sw i done st).code) ∧
    (∀ es ok ko pd pmk st,
      jumps (compileAlt env es ok ko pd pmk st).code =
        jumps (compileAlt env' es ok ko pd pmk st).code) := by
  -- for `e+`, `compileSeq`, `compileAlt`, `compileCases`: the fragment compiled second starts from
  -- the counters the first one left, and `hs` makes them those of the other environment, where the
  -- induction hypothesis speaks; no arithmetic is needed, `simp_all` rewrites with the hypotheses
  have hs : ∀ e ko pd pmk st, (compile env' e ko pd pmk st).st = (compile env e ko pd pmk st).st :=
    fun e ko pd pmk st => compile_st_indep env' env e ko ko pd pmk pd pmk st
  apply compile.mutual_induct env
  all_goals intros
  all_goals simp_all +zetaDelta only [compile, compileSeq, compileAlt, compileCases, jumps_append,
    jumps_lbl, jumps_cons, jumps_nil, jumps_ite, Instr.target?, Option.toList, List.nil_append,
    List.append_nil, ite_self]

theorem compile_jumps_eq (env env' : CEnv) (ha : env.always = env'.always) (e : Expr) (ko : Nat)
    (pd pmk : Bool) (st : CSt) :
    jumps (compile env e ko pd pmk st).code = jumps (compile env' e ko pd pmk st).code :=
  (compile_jumps_eq_all env env' ha).1 e ko pd pmk st

theorem compileSeq_jumps_indep (env env' : CEnv) (ha : env.always = env'.always) :
    ∀ (es : List Expr) (ko : Nat) (pd pmk : Bool) (st : CSt), noUaltL es = true →
    jumps (compileSeq env es ko pd pmk st).code = jumps (compileSeq env' es ko pd pmk st).code :=
  -- `_`: `noUaltL es` is not needed, the equality holds with `-switch` nodes too
  fun es ko pd pmk st _ => (compile_jumps_eq_all env env' ha).2.1 es ko pd pmk st

theorem compileAlt_jumps_indep (env env' : CEnv) (ha : env.always = env'.always) :
    ∀ (es : List Expr) (ok ko : Nat) (pd pmk : Bool) (st : CSt), noUaltL es = true →
    jumps (compileAlt env es ok ko pd pmk st).code = jumps (compileAlt env' es ok ko pd pmk st).code :=
  -- `_`: `noUaltL es` is not needed either
  fun es ok ko pd pmk st _ => (compile_jumps_eq_all env env' ha).2.2.2 es ok ko pd pmk st

/-- The inclusion — "every jump of the real pass was recorded by the dry pass" — is all that
    `PreG.used` asks for, and all that holds of the generator without the fix of F-C08-2. -/
theorem compile_jumps_sub (env env' : CEnv) (ha : env.always = env'.always) :
    ∀ (e : Expr) (ko : Nat) (pd pmk : Bool) (st : CSt),
    jumps (compile env e ko pd pmk st).code ⊆ jumps (compile env' e ko pd pmk st).code :=
  fun e ko pd pmk st => (compile_jumps_eq_all env env' ha).1 e ko pd pmk st ▸ List.Subset.refl _

theorem compileSeq_jumps_sub (env env' : CEnv) (ha : env.always = env'.always) :
    ∀ (es : List Expr) (ko : Nat) (pd pmk : Bool) (st : CSt),
    jumps (compileSeq env es ko pd pmk st).code ⊆ jumps (compileSeq env' es ko pd pmk st).code :=
  fun es ko pd pmk st => (compile_jumps_eq_all env env' ha).2.1 es ko pd pmk st ▸ List.Subset.refl _

theorem compileAlt_jumps_sub (env env' : CEnv) (ha : env.always = env'.always) :
    ∀ (es : List Expr) (ok ko : Nat) (pd pmk : Bool) (st : CSt),
    jumps (compileAlt env es ok ko pd pmk st).code ⊆ jumps (compileAlt env' es ok ko pd pmk st).code :=
  fun es ok ko pd pmk st =>
    (compile_jumps_eq_all env env' ha).2.2.2 es ok ko pd pmk st ▸ List.Subset.refl _

theorem compileCases_jumps_sub (env env' : CEnv) (ha : env.always = env'.always) :
    ∀ (ks : List KeySet) (es : List Expr) (sw i done : Nat) (st : CSt),
    jumps (compileCases env ks es sw i done st).code ⊆ jumps (compileCases env' ks es sw i done st).code :=
  fun ks es sw i done st =>
    (compile_jumps_eq_all env env' ha).2.2.1 ks es sw i done st ▸ List.Subset.refl _

/-! ### The code of a token-producing wrapper around anything but a bare action -/

theorem compile_push_nonact {env : CEnv} {e : Expr} (h : e.isAct = false) (r : String) (ko : Nat) (pd pmk : Bool) (st : CSt) :
    (compile env (.push e r) ko pd pmk st).code =
      [.bb, .savePos st.label] ++ ((compile env e ko pd pmk { st with label := st.label + 1 }).code ++
        ((if !env.ast then [Instr.cap st.label] else [.add r st.label]) ++ [.be])) := by
  cases e <;> simp_all [compile, Expr.isAct]

theorem compile_ipush_nonact {env : CEnv} {e : Expr} (h : e.isAct = false) (r : String) (ko : Nat) (pd pmk : Bool) (st : CSt) :
    (compile env (.ipush e r) ko pd pmk st).code =
      [.bb, .savePos st.label] ++ ((compile env e ko pd pmk { st with label := st.label + 1 }).code ++
        [.add r st.label, .be]) := by
  cases e <;> simp_all [compile, Expr.isAct]

/-! ### `parentMultipleKey` is irrelevant without `parentDetect` -/

/-- `pmk` is only read together with `pd` (`pd && !pmk`), and a node hands both flags or neither
    to its first operand.  (`compileCases` sets the flags itself: nothing to say.) -/
theorem compile_pd_false_all (env : CEnv) :
    (∀ e ko pd pmk st, pd = false → compile env e ko pd pmk st = compile env e ko false false st) ∧
    (∀ es ko pd pmk st, pd = false →
      compileSeq env es ko pd pmk st = compileSeq env es ko false false st) ∧
    (∀ (_ : List KeySet) (_ : List Expr) (_ _ _ : Nat) (_ : CSt), True) ∧
    (∀ es ok ko pd pmk st, pd = false →
      compileAlt env es ok ko pd pmk st = compileAlt env es ok ko false false st) := by
  apply compile.mutual_induct env
  all_goals intros
  all_goals subst_vars
  all_goals simp_all +zetaDelta only [compile, compileSeq, compileAlt, Bool.false_and,
    Bool.false_eq_true, if_false]

theorem compile_pd_false (env : CEnv) : ∀ (e : Expr) (ko : Nat) (pmk : Bool) (st : CSt),
    compile env e ko false pmk st = compile env e ko false false st :=
  fun e ko pmk st => (compile_pd_false_all env).1 e ko false pmk st rfl

theorem compileSeq_pd_false (env : CEnv) : ∀ (es : List Expr) (ko : Nat) (pmk : Bool) (st : CSt),
    compileSeq env es ko false pmk st = compileSeq env es ko false false st :=
  fun es ko pmk st => (compile_pd_false_all env).2.1 es ko false pmk st rfl

theorem compileAlt_pd_false (env : CEnv) : ∀ (es : List Expr) (ok ko : Nat) (pmk : Bool) (st : CSt),
    compileAlt env es ok ko false pmk st = compileAlt env es ok ko false false st :=
  fun es ok ko pmk st => (compile_pd_false_all env).2.2.2 es ok ko false pmk st rfl

end PegVerif
