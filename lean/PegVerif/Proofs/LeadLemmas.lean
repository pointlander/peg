import PegVerif.Proofs.SemLemmas
import PegVerif.Model.Checkers
/-
  `-switch`: the hypothesis under which an elided terminal test is harmless.

  Inside a `case` of a `switch buffer[position]` the generator sets `parentDetect` (and
  `parentMultipleKey`) on the case body; `compile` hands the two flags down to the node that is
  executed first (`pd pmk` in the model) and a terminal that receives them is printed WITHOUT its
  test:

      chr c   with pd ∧ ¬pmk   ↦  position++
      rng l h with pd ∧ ¬pmk   ↦  position++
      dot     with pd          ↦  position++

  `Lead inp p pd pmk e`: every test elided in the code of `e` would have passed at `p` (for `dot`:
  `p` is inside the input).  `&e`, `!e`, `e*`, `e+` compile their operand with both flags false, so
  nothing is elided below them.  `leadOK K pd pmk e` (`Model/Checkers.lean`) decides it for every
  position whose symbol is in the key set `K` (`leadOK_sound`).
-/
namespace PegVerif

mutual
  def Lead (inp : List Sym) (p : Nat) (pd pmk : Bool) : Expr → Prop
    | .chr c => pd = true → pmk = false → peek inp p = c
    | .rng lo hi => pd = true → pmk = false → lo ≤ peek inp p ∧ peek inp p ≤ hi
    | .dot => pd = true → p < inp.length
    | .star _ => True
    | .inl _ e => Lead inp p pd pmk e
    | .push e _ => Lead inp p pd pmk e
    | .ipush e _ => Lead inp p pd pmk e
    | .peekFor _ => True
    | .peekNot _ => True
    | .query e => Lead inp p pd pmk e
    | .seq es => LeadL inp p pd pmk es
    | .alt es => LeadL inp p pd pmk es
    | .str _ => True
    | .name _ => True
    | .pred _ => True
    | .stmt _ => True
    | .act _ => True
    | .ualt _ _ => True
    | .plus _ => True
    | .nil => True
  /-- Only the first element of a sequence / choice inherits the flags. -/
  def LeadL (inp : List Sym) (p : Nat) (pd pmk : Bool) : List Expr → Prop
    | [] => True
    | e :: _ => Lead inp p pd pmk e
end

theorem Lead_false_all (inp : List Sym) (p : Nat) (pmk : Bool) :
    (∀ e : Expr, Lead inp p false pmk e) ∧ (∀ es : List Expr, LeadL inp p false pmk es) := by
  apply Lead.mutual_induct
  all_goals intros
  all_goals simp_all [Lead, LeadL]

theorem Lead_false (inp : List Sym) (p : Nat) (pmk : Bool) : ∀ e : Expr, Lead inp p false pmk e :=
  (Lead_false_all inp p pmk).1

theorem LeadL_false (inp : List Sym) (p : Nat) (pmk : Bool) : ∀ es : List Expr, LeadL inp p false pmk es :=
  (Lead_false_all inp p pmk).2

theorem keysWithin_sound {K : KeySet} {lo hi c : Nat} (h : keysWithin K lo hi = true)
    (hc : K.has c = true) : lo ≤ c ∧ c ≤ hi := by
  obtain ⟨r, hr, h1, h2⟩ := KeySet.has_iff.mp hc
  have := List.all_eq_true.mp h r hr
  simp only [Bool.or_eq_true, Bool.and_eq_true, decide_eq_true_eq] at this
  omega

theorem keysBelowEnd_sound {K : KeySet} {c : Nat} (h : keysBelowEnd K = true)
    (hc : K.has c = true) : c < END := by
  obtain ⟨r, hr, h1, h2⟩ := KeySet.has_iff.mp hc
  have := List.all_eq_true.mp h r hr
  simp only [Bool.or_eq_true, decide_eq_true_eq] at this
  omega

theorem leadOK_sound_all {K : KeySet} {inp : List Sym} {p : Nat} {pd pmk : Bool}
    (hK : K.has (peek inp p) = true) :
    (∀ e : Expr, leadOK K pd pmk e = true → Lead inp p pd pmk e) ∧
    (∀ es : List Expr, leadOKL K pd pmk es = true → LeadL inp p pd pmk es) := by
  apply Lead.mutual_induct
  -- the three terminals whose test is elided (`chr`, `rng`, `dot`): the symbol at `p` is in `K`, and
  -- `K` passes the test
  case case1 =>
    intro c h hpd hpmk
    subst hpd; subst hpmk
    simp only [leadOK, Bool.not_true, Bool.false_or] at h
    have := keysWithin_sound h hK
    omega
  case case2 =>
    intro lo hi h hpd hpmk
    subst hpd; subst hpmk
    simp only [leadOK, Bool.not_true, Bool.false_or] at h
    exact keysWithin_sound h hK
  case case3 =>
    intro h hpd
    subst hpd
    simp only [leadOK, Bool.not_true, Bool.false_or] at h
    exact lt_length_of_peek_lt (keysBelowEnd_sound h hK)
  all_goals intros
  all_goals simp_all [Lead, LeadL, leadOK, leadOKL]

theorem leadOK_sound {K : KeySet} {inp : List Sym} {p : Nat} {pd pmk : Bool}
    (hK : K.has (peek inp p) = true) : ∀ e : Expr, leadOK K pd pmk e = true → Lead inp p pd pmk e :=
  (leadOK_sound_all hK).1

theorem leadOKL_sound {K : KeySet} {inp : List Sym} {p : Nat} {pd pmk : Bool}
    (hK : K.has (peek inp p) = true) : ∀ es : List Expr, leadOKL K pd pmk es = true →
    LeadL inp p pd pmk es :=
  (leadOK_sound_all hK).2

end PegVerif
