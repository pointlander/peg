import PegVerif.Model.Set
/-
  The model of `set/set.go` against its meaning `mem`, on the lists with the invariant `Inv`: one
  lemma per operation (`Add` is `AddRange`; `Len` comes with `elems_spec`).  `AddRange` is followed on a decomposition `A ++ M ++ C` of the list around
  `[b, e]` (`addRange_decomp`); `Equal` compares normal forms (`equal_eq`), and a normal form is
  determined by its members (`gapped_ext`).
-/
namespace PegVerif.MSet

/-- An in-domain insertion: code points, not reversed, below `math.MaxInt32`. -/
def InDom (b e : Int) : Prop := 0 ≤ b ∧ b ≤ e ∧ e < MAXI

/-- The invariant of every reachable list.  Adjacent intervals (`hi + 1 = lo'`) are allowed: the
    code never merges them.  The first conjunct is `InDom p.1 p.2` unfolded, so `Inv.bounds` also
    serves where `InDom` of an interval is asked for. -/
def Inv (s : MSet) : Prop :=
  (∀ p ∈ s, 0 ≤ p.1 ∧ p.1 ≤ p.2 ∧ p.2 < MAXI) ∧ s.Pairwise (fun p q => p.2 < q.1)

/-- What the C16 theorems quantify over: the results of in-domain `AddRange` calls on `NewSet()`. -/
def Reachable (s : MSet) : Prop := ∃ ops : List Iv, (∀ o ∈ ops, InDom o.1 o.2) ∧ build ops = .ok s

/-- The receivers `Complement(limit)` is meant for, and what it returns. -/
def Within (s : MSet) (limit : Int) : Prop := ∀ p ∈ s, p.2 ≤ limit

theorem mem_nil (x : Int) : ¬ mem [] x := by simp [mem]

theorem mem_cons {p : Iv} {s : MSet} {x : Int} : mem (p :: s) x ↔ (p.1 ≤ x ∧ x ≤ p.2) ∨ mem s x := by
  simp only [mem, List.mem_cons, or_and_right, exists_or, exists_eq_left]

theorem mem_append {s t : MSet} {x : Int} : mem (s ++ t) x ↔ mem s x ∨ mem t x := by
  simp only [mem, List.mem_append, or_and_right, exists_or]

theorem mem_singleton {p : Iv} {x : Int} : mem [p] x ↔ (p.1 ≤ x ∧ x ≤ p.2) := by
  simp [mem]

theorem mem_fst {s : MSet} {q : Iv} (hq : q ∈ s) (h : q.1 ≤ q.2) : mem s q.1 :=
  ⟨q, hq, Int.le_refl _, h⟩

theorem mem_snd {s : MSet} {q : Iv} (hq : q ∈ s) (h : q.1 ≤ q.2) : mem s q.2 :=
  ⟨q, hq, h, Int.le_refl _⟩

theorem memb_iff {s : MSet} {x : Int} : memb s x = true ↔ mem s x := by
  simp only [memb, mem, List.any_eq_true, Bool.and_eq_true, decide_eq_true_eq]

theorem memb_cons (p : Iv) (s : MSet) (x : Int) :
    memb (p :: s) x = ((decide (p.1 ≤ x) && decide (x ≤ p.2)) || memb s x) := by
  simp [memb]

theorem wrap32_id {x : Int} (h1 : -2147483648 ≤ x) (h2 : x ≤ 2147483647) : wrap32 x = x := by
  unfold wrap32; rw [if_neg (by omega), if_neg (by omega)]

theorem Inv.nil : Inv [] := by simp [Inv]

theorem Inv.cons_iff {lo hi : Int} {s : MSet} :
    Inv ((lo, hi) :: s) ↔ (0 ≤ lo ∧ lo ≤ hi ∧ hi < MAXI) ∧ (∀ q ∈ s, hi < q.1) ∧ Inv s := by
  simp only [Inv, List.mem_cons, forall_eq_or_imp, List.pairwise_cons]
  constructor
  · rintro ⟨⟨h1, h2⟩, h3, h4⟩; exact ⟨h1, h3, h2, h4⟩
  · rintro ⟨h1, h3, h2, h4⟩; exact ⟨⟨h1, h2⟩, h3, h4⟩

theorem Inv.tail {p : Iv} {s : MSet} (h : Inv (p :: s)) : Inv s := (Inv.cons_iff.1 h).2.2

theorem Inv.lt_of_mem_tail {lo hi x : Int} {s : MSet} (h : Inv ((lo, hi) :: s)) (hx : mem s x) :
    hi < x := by
  obtain ⟨q, hq, h1, _⟩ := hx
  have := (Inv.cons_iff.1 h).2.1 q hq
  omega

theorem Inv.append_iff {s t : MSet} :
    Inv (s ++ t) ↔ Inv s ∧ Inv t ∧ ∀ p ∈ s, ∀ q ∈ t, p.2 < q.1 := by
  simp only [Inv, List.mem_append, List.pairwise_append]
  constructor
  · rintro ⟨h1, h2, h3, h4⟩
    exact ⟨⟨fun p hp => h1 p (Or.inl hp), h2⟩, ⟨fun p hp => h1 p (Or.inr hp), h3⟩, h4⟩
  · rintro ⟨⟨h1, h2⟩, ⟨h3, h4⟩, h5⟩
    exact ⟨fun p hp => hp.elim (h1 p) (h3 p), h2, h4, h5⟩

theorem Inv.bounds {s : MSet} (h : Inv s) {p : Iv} (hp : p ∈ s) : 0 ≤ p.1 ∧ p.1 ≤ p.2 ∧ p.2 < MAXI :=
  h.1 p hp

theorem Inv.le_of_mem {s : MSet} (h : Inv s) {p : Iv} (hp : p ∈ s) : p.1 ≤ p.2 := (h.bounds hp).2.1

theorem Inv.mem_bounds {s : MSet} (h : Inv s) {x : Int} (hx : mem s x) : 0 ≤ x ∧ x < MAXI := by
  obtain ⟨p, hp, h1, h2⟩ := hx
  have := h.bounds hp
  omega

theorem Inv.head_le {m1 : Iv} {M : MSet} (h : Inv (m1 :: M)) : ∀ m ∈ m1 :: M, m1.1 ≤ m.1 := by
  obtain ⟨_, h1, _⟩ := Inv.cons_iff.1 h
  intro m hm
  rcases List.mem_cons.1 hm with rfl | hm
  · omega
  · have := h1 m hm
    have := h.bounds (p := m1) (by simp)
    omega

theorem Inv.le_last {ml : Iv} {M : MSet} (h : Inv (M ++ [ml])) : ∀ m ∈ M ++ [ml], m.2 ≤ ml.2 := by
  obtain ⟨_, hl, hil⟩ := Inv.append_iff.1 h
  intro m hm
  rcases List.mem_append.1 hm with hm | hm
  · have := hil m hm ml (by simp)
    have := hl.bounds (p := ml) (by simp)
    omega
  · obtain rfl : m = ml := by simpa using hm
    omega

theorem len_nonneg {s : MSet} (hInv : Inv s) : 0 ≤ len s := by
  induction s with
  | nil => simp [len]
  | cons p r ih =>
    obtain ⟨lo, hi⟩ := p
    obtain ⟨hp, _, hr⟩ := Inv.cons_iff.1 hInv
    have := ih hr
    simp only [len]; omega

theorem copy_eq (s : MSet) : copy s = s := by
  induction s with
  | nil => rfl
  | cons p s ih =>
    obtain ⟨lo, hi⟩ := p
    simp [copy, ih]

/-! ### the two scans: they pass what lies wholly on the near side, then stop at once or (on `[]`)
    step onto the sentinel -/

theorem fwdScan_append {b : Int} (A R : MSet) (h : ∀ a ∈ A, a.2 < b) :
    fwdScan b (A ++ R) = A.length + fwdScan b R := by
  induction A with
  | nil => simp
  | cons a A ih =>
    simp only [List.cons_append, fwdScan, List.length_cons]
    rw [if_pos (h a (by simp)), ih (fun x hx => h x (by simp [hx]))]
    omega

theorem bwdScan_append {e : Int} (C R : MSet) (h : ∀ c ∈ C, e < c.1) :
    bwdScan e (C ++ R) = C.length + bwdScan e R := by
  induction C with
  | nil => simp
  | cons c C ih =>
    simp only [List.cons_append, bwdScan, List.length_cons]
    rw [if_pos (h c (by simp)), ih (fun x hx => h x (by simp [hx]))]
    omega

theorem fwdScan_stop {b : Int} {R : MSet} (hR : ∀ r ∈ R, b ≤ r.2) (hne : R ≠ []) :
    fwdScan b R = 0 := by
  obtain ⟨x, R, rfl⟩ := List.exists_cons_of_ne_nil hne
  have := hR x (by simp)
  rw [fwdScan, if_neg (by omega)]

theorem bwdScan_stop {e : Int} {L : MSet} (hL : ∀ l ∈ L, l.1 ≤ e) (hne : L ≠ []) :
    bwdScan e L.reverse = 0 := by
  obtain ⟨x, R, h⟩ := List.exists_cons_of_ne_nil (mt List.reverse_eq_nil_iff.1 hne)
  have := hL x (by simpa using List.mem_reverse.1 (h ▸ List.mem_cons_self))
  rw [h, bwdScan, if_neg (by omega)]

/-! ### the `if … else if …` chain of `AddRange` on `s = A ++ M ++ C`: `beginNode` is the last node of
    `A`, `endNode` the first node of `C`, or the sentinel a scan has run onto -/

/-- The interval that replaces `M`. -/
def mergeIv (b e : Int) (M : MSet) : Iv :=
  (match M.head? with | some m => min b m.1 | none => b,
   match M.getLast? with | some m => max e m.2 | none => e)

theorem mergeIv_nil (b e : Int) : mergeIv b e [] = (b, e) := rfl

theorem mergeIv_fst_cons (b e : Int) (m : Iv) (M : MSet) : (mergeIv b e (m :: M)).1 = min b m.1 := rfl

theorem mergeIv_snd_concat (b e : Int) (m : Iv) (M : MSet) :
    (mergeIv b e (M ++ [m])).2 = max e m.2 := by
  simp [mergeIv, List.getLast?_append]

theorem lt_mergeIv_fst {b e lo : Int} {M : MSet} (hb : lo < b) (hM : ∀ m ∈ M, lo < m.1) :
    lo < (mergeIv b e M).1 := by
  rcases M with _ | ⟨m, M⟩
  · exact hb
  · have := hM m (by simp)
    rw [mergeIv_fst_cons]
    omega

theorem mergeIv_snd_lt {b e hi : Int} {M : MSet} (he : e < hi) (hM : ∀ m ∈ M, m.2 < hi) :
    (mergeIv b e M).2 < hi := by
  rcases M.eq_nil_or_concat with rfl | ⟨M, m, rfl⟩
  · exact he
  · have := hM m (by simp)
    rw [List.concat_eq_append, mergeIv_snd_concat]
    omega

/-- Branch 4: the forward scan has run onto `Tail`. -/
theorem addRangeAt_tail (s : MSet) (b e : Int) :
    addRangeAt s b e (s.length + 1) (s.length + 1) = .ok (s ++ [(b, e)]) := by
  simp [addRangeAt]

/-- Branch 3: the backward scan has run onto `Head`. -/
theorem addRangeAt_head (s : MSet) (b e : Int) :
    addRangeAt s b e 0 0 = .ok ((b, e) :: s) := by
  simp [addRangeAt]

/-- Branches 5, 2 and 7 (`M` has no, one, several nodes): both scans have stopped on nodes. -/
theorem addRangeAt_mid (A M C : MSet) (b e : Int) :
    addRangeAt (A ++ M ++ C) b e A.length (A.length + M.length + 1) =
      .ok (A ++ [mergeIv b e M] ++ C) := by
  simp only [addRangeAt, List.length_append]
  -- one `if_neg` for every condition of the chain that fails, `if_pos` for the one that holds;
  -- `simp` then finds the nodes at `p` and `q - 2` and what `take` and `drop` keep
  rw [if_neg (by omega)]
  rcases M with _ | ⟨⟨lo, hi⟩, M⟩
  · rw [if_neg (by simp), if_neg (by simp), if_neg (by simp; omega), if_pos (by simp)]
    simp [mergeIv]
  rcases M.eq_nil_or_concat with rfl | ⟨M, ⟨lo', hi'⟩, rfl⟩
  · rw [if_pos (by simp; omega)]
    simp [mergeIv]
    omega
  · rw [if_neg (by simp), if_neg (by simp), if_neg (by simp; omega), if_neg (by simp),
      if_neg (by simp), if_pos (by simp; omega)]
    simp [mergeIv, List.getLast?_cons, List.getLast?_append]
    omega

theorem addRange_of_ne_nil {s : MSet} (h : s ≠ []) (b e : Int) :
    addRange s b e = addRangeAt s b e (fwdScan b s) (s.length + 1 - bwdScan e s.reverse) := by
  cases s with
  | nil => exact absurd rfl h
  | cons x r => rfl

theorem addRange_decomp (A M C : MSet) (b e : Int) (hInv : Inv (A ++ M ++ C)) (hd : InDom b e)
    (hA : ∀ a ∈ A, a.2 < b) (hC : ∀ c ∈ C, e < c.1) (hM : ∀ m ∈ M, b ≤ m.2 ∧ m.1 ≤ e) :
    addRange (A ++ M ++ C) b e = .ok (A ++ [mergeIv b e M] ++ C) := by
  obtain ⟨hb0, hbe, heM⟩ := hd
  have hR : ∀ r ∈ M ++ C, b ≤ r.2 := fun r hr => by
    rcases List.mem_append.1 hr with h | h
    · exact (hM r h).1
    · have := hC r h
      have := hInv.le_of_mem (p := r) (by simp [h])
      omega
  have hL : ∀ l ∈ A ++ M, l.1 ≤ e := fun l hl => by
    rcases List.mem_append.1 hl with h | h
    · have := hA l h
      have := hInv.le_of_mem (p := l) (by simp [h])
      omega
    · exact (hM l h).2
  by_cases hs : A ++ M ++ C = []
  · simp only [List.append_eq_nil_iff] at hs
    obtain ⟨⟨rfl, rfl⟩, rfl⟩ := hs
    rfl
  -- the forward scan passes `A`, the backward scan `C`
  have hp : fwdScan b (A ++ M ++ C) = A.length + fwdScan b (M ++ C) := by
    rw [List.append_assoc, fwdScan_append A _ hA]
  have hq : bwdScan e (A ++ M ++ C).reverse = C.length + bwdScan e (A ++ M).reverse := by
    rw [List.reverse_append, bwdScan_append _ _ (by simpa using hC), List.length_reverse]
  rw [addRange_of_ne_nil hs, hp, hq]
  by_cases h1 : M ++ C = []
  · -- everything ends below `b`: the forward scan steps onto `Tail` (`Tail.End = 0 < b`)
    obtain ⟨rfl, rfl⟩ := List.append_eq_nil_iff.1 h1
    simp only [List.append_nil] at hs hL ⊢
    have hb : 0 < b := by
      obtain ⟨a, A', rfl⟩ := List.exists_cons_of_ne_nil hs
      have := hA a (by simp)
      have := hInv.bounds (p := a) (by simp)
      omega
    rw [bwdScan_stop hL hs]
    simpa [fwdScan, hb, mergeIv_nil] using addRangeAt_tail A b e
  by_cases h2 : A ++ M = []
  · -- everything begins above `e`: the backward scan steps onto `Head` (`e < Head.Begin = MaxInt32`)
    obtain ⟨rfl, rfl⟩ := List.append_eq_nil_iff.1 h2
    simp only [List.nil_append] at hs hR ⊢
    rw [fwdScan_stop hR hs]
    simpa [bwdScan, heM, mergeIv_nil] using addRangeAt_head C b e
  · rw [fwdScan_stop hR h1, bwdScan_stop hL h2]
    have : (A ++ M ++ C).length + 1 - (C.length + 0) = A.length + M.length + 1 := by
      simp only [List.length_append]; omega
    rw [this]
    exact addRangeAt_mid ..

/-- Cutting a sorted list by a test that earlier intervals inherit from later ones: once an interval
    fails it, all that follow fail it. -/
theorem exists_split {s : MSet} (hInv : Inv s) (P : Iv → Prop) [DecidablePred P]
    (hP : ∀ p q : Iv, p.1 < q.1 → p.2 < q.2 → P q → P p) :
    ∃ A R, s = A ++ R ∧ (∀ a ∈ A, P a) ∧ (∀ r ∈ R, ¬ P r) := by
  induction s with
  | nil => exact ⟨[], [], rfl, by simp, by simp⟩
  | cons x r ih =>
    obtain ⟨hx, hxr, hr⟩ := Inv.cons_iff.1 hInv
    by_cases hPx : P x
    · obtain ⟨A, R, rfl, hA, hR⟩ := ih hr
      exact ⟨x :: A, R, rfl, by simpa [hPx] using hA, hR⟩
    · refine ⟨[], x :: r, rfl, by simp, fun q hq hPq => ?_⟩
      rcases List.mem_cons.1 hq with rfl | hq
      · exact hPx hPq
      · have := hxr q hq
        have := hr.le_of_mem hq
        exact hPx (hP x q (by omega) (by omega) hPq)

theorem exists_decomp {s : MSet} (hInv : Inv s) (b e : Int) :
    ∃ A M C, s = A ++ M ++ C ∧ (∀ a ∈ A, a.2 < b) ∧ (∀ c ∈ C, e < c.1) ∧
      (∀ m ∈ M, b ≤ m.2 ∧ m.1 ≤ e) := by
  obtain ⟨A, R, rfl, hA, hR⟩ := exists_split hInv (fun p => p.2 < b) (by intros; omega)
  obtain ⟨M, C, rfl, hM, hC⟩ :=
    exists_split (Inv.append_iff.1 hInv).2.1 (fun p => p.1 ≤ e) (by intros; omega)
  refine ⟨A, M, C, by simp, hA, fun c hc => ?_, fun m hm => ⟨?_, hM m hm⟩⟩
  · have := hC c hc; omega
  · have := hR m (by simp [hm]); omega

theorem mergeIv_mem {M : MSet} {b e : Int} (hInv : Inv M)
    (hM : ∀ m ∈ M, b ≤ m.2 ∧ m.1 ≤ e) (x : Int) :
    (mergeIv b e M).1 ≤ x ∧ x ≤ (mergeIv b e M).2 ↔ (b ≤ x ∧ x ≤ e) ∨ mem M x := by
  rcases M with _ | ⟨m1, M1⟩
  · simp [mergeIv_nil, mem_nil]
  obtain ⟨Mi, ml, hMl⟩ : ∃ Mi ml, m1 :: M1 = Mi ++ [ml] := by
    rcases (m1 :: M1).eq_nil_or_concat with h | ⟨Mi, ml, h⟩
    · simp at h
    · exact ⟨Mi, ml, by rw [h, List.concat_eq_append]⟩
  -- the head view `m1 :: M1` is for `.1`, the last view `Mi ++ [ml]` for `.2`; `hMl` identifies them
  have hlo := hInv.head_le
  have hhi := (hMl ▸ hInv).le_last
  have hfst := mergeIv_fst_cons b e m1 M1
  have hsnd := mergeIv_snd_concat b e ml Mi
  rw [← hMl] at hsnd hhi
  have h1 := hM m1 (by simp)
  have hl := hM ml (by rw [hMl]; simp)
  constructor
  · -- below `b` the merged interval lies in the first interval of `M`, above `e` in the last
    intro h
    by_cases hxb : x < b
    · exact Or.inr ⟨m1, by simp, by omega, by omega⟩
    · by_cases hxe : e < x
      · exact Or.inr ⟨ml, by rw [hMl]; simp, by omega, by omega⟩
      · exact Or.inl (by omega)
  · rintro (h | ⟨m, hm, h⟩)
    · omega
    · have := hlo m hm
      have := hhi m hm
      omega

theorem addRange_spec {s : MSet} {b e : Int} (hInv : Inv s) (hd : InDom b e) :
    ∃ s', addRange s b e = .ok s' ∧ Inv s' ∧ ∀ x, mem s' x ↔ (b ≤ x ∧ x ≤ e) ∨ mem s x := by
  obtain ⟨A, M, C, rfl, hA, hC, hM⟩ := exists_decomp hInv b e
  have hadd := addRange_decomp A M C b e hInv hd hA hC hM
  obtain ⟨hb0, hbe, heM⟩ := hd
  obtain ⟨hAM, hCi, hAMC⟩ := Inv.append_iff.1 hInv
  obtain ⟨hAi, hMi, hAMp⟩ := Inv.append_iff.1 hAM
  have hiv := mergeIv_mem hMi hM
  -- the merged interval begins above whatever `b` and all of `M` begin above, and ends likewise
  have h0 : -1 < (mergeIv b e M).1 :=
    lt_mergeIv_fst (by omega) fun m hm => by have := hMi.bounds hm; omega
  have hmax : (mergeIv b e M).2 < MAXI := mergeIv_snd_lt heM fun m hm => (hMi.bounds hm).2.2
  have hAlt : ∀ a ∈ A, a.2 < (mergeIv b e M).1 := fun a ha =>
    lt_mergeIv_fst (hA a ha) (hAMp a ha)
  have hClt : ∀ c ∈ C, (mergeIv b e M).2 < c.1 := fun c hc =>
    mergeIv_snd_lt (hC c hc) fun m hm => hAMC m (List.mem_append.2 (Or.inr hm)) c hc
  generalize mergeIv b e M = iv at hadd hiv h0 hmax hAlt hClt
  refine ⟨_, hadd, ?_, fun x => ?_⟩
  · have hb := (hiv b).2 (Or.inl ⟨Int.le_refl _, hbe⟩)
    rw [Inv.append_iff, Inv.append_iff]
    refine ⟨⟨hAi, Inv.cons_iff.2 ⟨⟨by omega, by omega, hmax⟩, by simp, Inv.nil⟩, ?_⟩, hCi, ?_⟩
    · intro a ha q hq
      obtain rfl : q = iv := by simpa using hq
      exact hAlt a ha
    · intro q hq c hc
      rcases List.mem_append.1 hq with hq | hq
      · exact hAMC q (List.mem_append.2 (Or.inl hq)) c hc
      · obtain rfl : q = iv := by simpa using hq
        exact hClt c hc
  · simp only [mem_append, mem_singleton, hiv, or_assoc, or_left_comm]

theorem addAll_spec {acc : MSet} {ops : List Iv} (hInv : Inv acc) (hops : ∀ o ∈ ops, InDom o.1 o.2) :
    ∃ s', addAll acc ops = .ok s' ∧ Inv s' ∧ ∀ x, mem s' x ↔ mem acc x ∨ mem ops x := by
  induction ops generalizing acc with
  | nil => exact ⟨acc, rfl, hInv, by simp [mem_nil]⟩
  | cons o ops ih =>
    obtain ⟨lo, hi⟩ := o
    obtain ⟨s1, h1, hI1, hm1⟩ := addRange_spec hInv (hops (lo, hi) (by simp))
    obtain ⟨s2, h2, hI2, hm2⟩ := ih hI1 (fun o ho => hops o (by simp [ho]))
    refine ⟨s2, by simp only [addAll, h1]; exact h2, hI2, fun x => ?_⟩
    simp only [hm2, hm1, mem_cons, or_assoc, or_left_comm]

theorem union_spec_of_inv {a b : MSet} (ha : Inv a) (hb : Inv b) :
    ∃ u, union a b = .ok u ∧ Inv u ∧ ∀ x, mem u x ↔ mem a x ∨ mem b x := by
  rw [union, copy_eq]
  exact addAll_spec ha fun _ => hb.bounds

theorem Reachable.inv {s : MSet} (h : Reachable s) : Inv s := by
  obtain ⟨ops, hops, hb⟩ := h
  obtain ⟨s', h1, h2, _⟩ := addAll_spec Inv.nil hops
  cases h1.symm.trans hb
  exact h2

theorem addAll_append (acc : MSet) (xs ys : List Iv) :
    addAll acc (xs ++ ys) = match addAll acc xs with
      | .ok s => addAll s ys
      | .panic => .panic
      | .corrupt => .corrupt
      | .diverge => .diverge := by
  induction xs generalizing acc with
  | nil => rfl
  | cons x xs ih =>
    obtain ⟨lo, hi⟩ := x
    simp only [List.cons_append, addAll]
    cases addRange acc lo hi with
    | ok a => exact ih a
    | panic => rfl
    | corrupt => rfl
    | diverge => rfl

/-- Appending an interval above everything is branch 4 (or 1): the list just grows. -/
theorem addRange_snoc {s : MSet} {b e : Int} (h : Inv (s ++ [(b, e)])) :
    addRange s b e = .ok (s ++ [(b, e)]) := by
  obtain ⟨hs, hbe, hlt⟩ := Inv.append_iff.1 h
  have hd := hbe.bounds (p := (b, e)) (by simp)
  have := addRange_decomp s [] [] b e (by simpa using hs) hd
    (fun a ha => hlt a ha (b, e) (by simp)) (by simp) (by simp)
  simpa [mergeIv_nil] using this

theorem addAll_of_inv {acc t : MSet} (h : Inv (acc ++ t)) : addAll acc t = .ok (acc ++ t) := by
  induction t generalizing acc with
  | nil => simp [addAll]
  | cons x t ih =>
    obtain ⟨b, e⟩ := x
    have h' : Inv ((acc ++ [(b, e)]) ++ t) := by simpa using h
    rw [addAll, addRange_snoc (Inv.append_iff.1 h').1]
    simpa using ih h'

/-- Insert its own intervals in order. -/
theorem Inv.reachable {s : MSet} (h : Inv s) : Reachable s :=
  ⟨s, fun _ => h.bounds, addAll_of_inv (acc := []) h⟩

/-! ### Has -/

/-- `Has` as a recursion over the nodes.  `0 ≤ hi` is for the last node: a scan that has passed it
    runs onto `Tail` (`Tail.End = 0`), and `Has` then answers `false`. -/
theorem has_cons {lo hi : Int} (h : 0 ≤ hi) (r : MSet) (x : Int) :
    has ((lo, hi) :: r) x = if hi < x then has r x else decide (lo ≤ x) := by
  simp only [has, fwdScan, gt_iff_lt]
  by_cases hx : hi < x
  · simp only [hx, if_true, List.length_cons, Nat.add_right_cancel_iff, List.getElem?_cons_succ]
    rcases r with _ | ⟨y, r⟩
    · simp [fwdScan]
      omega
    · rfl
  · simp [hx]

theorem has_iff_of_inv {s : MSet} (hInv : Inv s) (x : Int) : has s x = true ↔ mem s x := by
  induction s with
  | nil => simp [has, mem_nil]
  | cons p r ih =>
    obtain ⟨lo, hi⟩ := p
    obtain ⟨hp, _, hr⟩ := Inv.cons_iff.1 hInv
    rw [has_cons (by omega), mem_cons]
    by_cases hx : hi < x
    · simp only [hx, if_true, ih hr]
      constructor
      · exact Or.inr
      · rintro (h | h)
        · omega
        · exact h
    · have : ¬ mem r x := fun h => hx (hInv.lt_of_mem_tail h)
      simp only [hx, if_false, decide_eq_true_eq, this, or_false]
      omega

/-! ### Intersects -/

theorem interInner_eq (x : Iv) (ys : MSet) : interInner x ys = ys.any (hit x) := by
  induction ys with
  | nil => rfl
  | cons y ys ih => simp only [interInner, List.any_cons, ih]; cases hit x y <;> simp

theorem interOuter_eq {b : MSet} (hb : b ≠ []) (xs : MSet) :
    interOuter b xs = if xs.any (fun x => b.any (hit x)) then some true else none := by
  have hbe : b.isEmpty = false := by simpa using hb
  induction xs with
  | nil => rfl
  | cons x xs ih =>
    simp only [interOuter, hbe, Bool.false_eq_true, if_false, interInner_eq, ih, List.any_cons]
    rcases Bool.eq_false_or_eq_true (b.any (hit x)) with h | h <;> simp only [h] <;> rfl

theorem intersects_eq (s b : MSet) :
    intersects s b = (s.any (fun x => b.any (hit x)) || b.any (fun x => s.any (hit x))) := by
  rcases s with _ | ⟨x, s'⟩
  · simp [intersects]
  rcases b with _ | ⟨y, b'⟩
  · simp [intersects, interOuter]
  simp only [intersects, List.isEmpty_cons, Bool.false_eq_true, if_false,
    interOuter_eq (List.cons_ne_nil _ _)]
  cases (x :: s').any (fun x => (y :: b').any (hit x)) <;>
    cases (y :: b').any (fun z => (x :: s').any (hit z)) <;> rfl

theorem hit_iff (x y : Iv) :
    hit x y = true ↔ (x.1 ≤ y.1 ∧ y.1 ≤ x.2) ∨ (x.1 ≤ y.2 ∧ y.2 ≤ x.2) := by
  simp [hit]

theorem exists_of_hit {x y : Iv} (hy : y.1 ≤ y.2) (h : hit x y = true) :
    ∃ z, (x.1 ≤ z ∧ z ≤ x.2) ∧ (y.1 ≤ z ∧ z ≤ y.2) := by
  rcases (hit_iff x y).1 h with h | h
  · exact ⟨y.1, h, by omega⟩
  · exact ⟨y.2, h, by omega⟩

theorem intersects_iff_of_bounds {s b : MSet} (hs : ∀ p ∈ s, p.1 ≤ p.2) (hb : ∀ p ∈ b, p.1 ≤ p.2) :
    intersects s b = true ↔ ∃ z, mem s z ∧ mem b z := by
  rw [intersects_eq]
  simp only [Bool.or_eq_true, List.any_eq_true]
  constructor
  · rintro (⟨x, hx, y, hy, h⟩ | ⟨y, hy, x, hx, h⟩)
    · obtain ⟨z, h1, h2⟩ := exists_of_hit (hb y hy) h
      exact ⟨z, ⟨x, hx, h1⟩, ⟨y, hy, h2⟩⟩
    · obtain ⟨z, h1, h2⟩ := exists_of_hit (hs x hx) h
      exact ⟨z, ⟨x, hx, h2⟩, ⟨y, hy, h1⟩⟩
  · -- of two intervals with a common point, the one that begins later begins inside the other
    rintro ⟨z, ⟨x, hx, hx1, hx2⟩, ⟨y, hy, hy1, hy2⟩⟩
    by_cases h : x.1 ≤ y.1
    · exact Or.inl ⟨x, hx, y, hy, (hit_iff x y).2 (Or.inl ⟨h, by omega⟩)⟩
    · exact Or.inr ⟨y, hy, x, hx, (hit_iff y x).2 (Or.inl ⟨by omega, by omega⟩)⟩

/-! ### Complement -/

/-- What `Complement(L)` needs of its receiver: no interval starts above `L + 1`, and only the last
    interval may reach `L` (or go beyond).  Every set within `[0, L]` is tame, and so is
    `{L+1}` (the use in `tree/peg.go`: `s.Add(EndSymbol); s.Complement(EndSymbol-1)`). -/
def Tame (L : Int) : MSet → Prop
  | [] => True
  | (lo, hi) :: r => lo ≤ L + 1 ∧ (hi < L ∨ r = []) ∧ Tame L r

theorem tame_of_within {s : MSet} {L : Int} (hInv : Inv s) (hw : Within s L) : Tame L s := by
  induction s with
  | nil => trivial
  | cons p r ih =>
    obtain ⟨lo, hi⟩ := p
    obtain ⟨hp, hpr, hr⟩ := Inv.cons_iff.1 hInv
    have h1 : hi ≤ L := hw (lo, hi) (by simp)
    refine ⟨by omega, ?_, ih hr (fun q hq => hw q (by simp [hq]))⟩
    rcases r with _ | ⟨q, r'⟩
    · exact Or.inr rfl
    · left
      have h2 := hpr q (by simp)
      have h3 := hr.le_of_mem (p := q) (by simp)
      have h4 : q.2 ≤ L := hw q (by simp)
      omega

/-! an interval that is only there under a condition (the three `if … then [(a, b)] else []` of
    `compLoop`) -/

theorem mem_optIv {c : Prop} [Decidable c] {a b x : Int} :
    mem (if c then [(a, b)] else []) x ↔ c ∧ a ≤ x ∧ x ≤ b := by
  split <;> simp [mem_singleton, mem_nil, *]

theorem forall_mem_optIv {c : Prop} [Decidable c] {a b : Int} {P : Iv → Prop} :
    (∀ q ∈ (if c then [(a, b)] else []), P q) ↔ (c → P (a, b)) := by
  split <;> simp [*]

theorem inv_optIv {c : Prop} [Decidable c] {a b : Int} :
    Inv (if c then [(a, b)] else []) ↔ (c → 0 ≤ a ∧ a ≤ b ∧ b < MAXI) := by
  split <;> simp [Inv, *]

/-- `pre` is the first point not yet accounted for: the intervals still to come begin at or above
    it. -/
theorem compLoop_spec {L : Int} (hL : L < MAXI) (rest : MSet) :
    ∀ (pre : Int), 0 ≤ pre → Inv rest → Tame L rest → (∀ p ∈ rest, pre ≤ p.1) →
      (∀ x, mem (compLoop L pre false rest) x ↔ pre ≤ x ∧ x ≤ L ∧ ¬ mem rest x) ∧
      Inv (compLoop L pre false rest) := by
  induction rest with
  | nil =>
    intro pre h0 _ _ _
    simp only [compLoop, Bool.not_false, Bool.true_and, decide_eq_true_eq]
    refine ⟨fun x => ?_, inv_optIv.2 fun _ => by omega⟩
    rw [mem_optIv]
    simp only [mem_nil, not_false_eq_true, and_true]
    omega
  | cons p r ih =>
    intro pre h0 hInv hT hpre
    obtain ⟨lo, hi⟩ := p
    obtain ⟨hp, hpr, hr⟩ := Inv.cons_iff.1 hInv
    obtain ⟨hT1, hT2, hT3⟩ := hT
    have hplo : pre ≤ lo := hpre (lo, hi) (by simp)
    unfold MAXI at hL hp
    simp only [compLoop, wrap32_id (x := lo - 1) (by omega) (by omega),
      wrap32_id (x := hi + 1) (by omega) (by omega)]
    by_cases hc : hi ≥ L
    · -- the interval reaches L: it is the last one
      obtain rfl : r = [] := hT2.resolve_left (by omega)
      simp only [hc, if_true, compLoop, Bool.not_true, Bool.false_and, Bool.false_eq_true, if_false,
        List.append_nil]
      refine ⟨fun x => ?_, inv_optIv.2 fun _ => by simp only [MAXI]; omega⟩
      rw [mem_optIv, mem_singleton]
      omega
    · obtain ⟨i1, i2⟩ := ih (hi + 1) (by omega) hr hT3 (fun q hq => by have := hpr q hq; omega)
      simp only [hc, if_false]
      refine ⟨fun x => ?_, Inv.append_iff.2 ⟨inv_optIv.2 fun _ => by simp only [MAXI]; omega, i2, ?_⟩⟩
      · rw [mem_append, mem_optIv, i1, mem_cons]
        by_cases hm : mem r x
        · have := hInv.lt_of_mem_tail hm
          simp only [hm, not_true_eq_false, and_false, or_false, or_true, iff_false]
          omega
        · simp only [hm, not_false_eq_true, and_true, or_false]
          omega
      · -- what follows begins with a member, and the members are above `hi`
        refine forall_mem_optIv.2 fun _ q hq => ?_
        have := (i1 q.1).1 (mem_fst hq (i2.le_of_mem hq))
        simp only
        omega

/-- For a tame receiver the special cases of `Complement` (full range, first interval at 0) only
    shortcut the loop. -/
theorem complement_eq_compLoop {s : MSet} {L : Int} (hInv : Inv s) (hT : Tame L s) (hL0 : 0 ≤ L) :
    complement s L = compLoop L 0 false s := by
  rcases s with _ | ⟨⟨lo, hi⟩, r⟩
  · simp [complement, compLoop, hL0]
  have hp := hInv.bounds (p := (lo, hi)) (by simp)
  have hlen : len ((lo, hi) :: r) ≠ 0 := by
    have := len_nonneg hInv.tail
    simp only [len]; omega
  simp only [MAXI] at hp
  -- an interval that reaches `L` is the last one, and after it the loop adds nothing
  have hlast : hi ≥ L → r = [] := fun h => hT.2.1.resolve_left (by omega)
  simp only [complement, hlen, if_false, compLoop, wrap32_id (x := hi + 1) (by omega) (by omega)]
  split
  · next hfull =>
    obtain ⟨rfl, rfl⟩ := hfull
    simp [hlast, compLoop]
  split
  · next hz =>
    subst hz
    by_cases hc : hi ≥ L
    · simp [hc, hlast hc, compLoop]
      omega
    · simp [hc]
  · rfl

theorem complement_spec_of_tame {s : MSet} {L : Int} (hInv : Inv s) (hT : Tame L s)
    (hL0 : 0 ≤ L) (hL : L < MAXI) :
    (∀ x, mem (complement s L) x ↔ 0 ≤ x ∧ x ≤ L ∧ ¬ mem s x) ∧ Inv (complement s L) ∧
    Within (complement s L) L := by
  rw [complement_eq_compLoop hInv hT hL0]
  obtain ⟨i1, i2⟩ := compLoop_spec hL s 0 (by omega) hInv hT fun q hq => (hInv.bounds hq).1
  -- the upper end of an interval of the complement is a member of it, hence `≤ L`
  exact ⟨i1, i2, fun q hq => ((i1 q.2).1 (mem_snd hq (i2.le_of_mem hq))).2.1⟩

/-! ### Equal: comparison of the normal forms (maximal runs) -/

/-- The list of maximal runs of overlapping or adjacent intervals (specification side). -/
def normAux (lo hi : Int) : MSet → MSet
  | [] => [(lo, hi)]
  | (l2, h2) :: r => if l2 ≤ hi + 1 then normAux lo (max hi h2) r else (lo, hi) :: normAux l2 h2 r

def norm : MSet → MSet
  | [] => []
  | (lo, hi) :: r => normAux lo hi r

/-- What `norm` produces: no two intervals overlap or touch, so the members determine the list
    (`gapped_ext`). -/
def Gapped (s : MSet) : Prop := (∀ p ∈ s, p.1 ≤ p.2) ∧ s.Pairwise (fun p q => p.2 + 1 < q.1)

theorem norm_cons (lo hi : Int) (r : MSet) :
    norm ((lo, hi) :: r) = (lo, (runEnd hi r).1) :: norm (runEnd hi r).2 := by
  induction r generalizing hi with
  | nil => rfl
  | cons p r ih =>
    obtain ⟨l2, h2⟩ := p
    by_cases h : l2 ≤ hi + 1
    · simp only [norm, normAux, runEnd, h, if_true]; exact ih (max hi h2)
    · simp only [norm, normAux, runEnd, h, if_false]

theorem norm_nil : norm [] = [] := rfl

theorem runEnd_length_le (r : MSet) : ∀ hi : Int, (runEnd hi r).2.length ≤ r.length := by
  induction r with
  | nil => intro hi; simp [runEnd]
  | cons p r ih =>
    intro hi
    obtain ⟨l2, h2⟩ := p
    by_cases h : l2 ≤ hi + 1
    · simp only [runEnd, h, if_true, List.length_cons]; have := ih (max hi h2); omega
    · simp only [runEnd, h, if_false, List.length_cons]; omega

theorem equalLoop_eq : ∀ (f : Nat) (x y : MSet), x.length < f →
    equalLoop f x y = .ok (decide (norm x = norm y)) := by
  intro f
  induction f with
  | zero => intro x y h; omega
  | succ f ih =>
    intro x y hlen
    rcases x with _ | ⟨⟨l1, h1⟩, r⟩ <;> rcases y with _ | ⟨⟨l2, h2⟩, r2⟩ <;>
      simp only [equalLoop, run, norm_nil, norm_cons]
    -- one or both lists exhausted: `run` is `none` exactly where `norm` is `[]`
    · simp
    · simp
    · simp
    · split
      · next hne =>
        rcases hne with h | h <;> simp [h]
      · next heq =>
        obtain ⟨rfl, he⟩ : l1 = l2 ∧ (runEnd h1 r).1 = (runEnd h2 r2).1 := by omega
        have hlen' : (runEnd h1 r).2.length < f := by
          have := runEnd_length_le r h1
          simp only [List.length_cons] at hlen
          omega
        rw [ih _ _ hlen', he]
        simp

theorem equal_eq (a b : MSet) : equal a b = .ok (decide (norm a = norm b)) :=
  equalLoop_eq _ _ _ (by omega)

theorem normAux_spec (r : MSet) : ∀ lo hi : Int, lo ≤ hi → Inv r → (∀ p ∈ r, hi < p.1) →
    (∀ x, mem (normAux lo hi r) x ↔ (lo ≤ x ∧ x ≤ hi) ∨ mem r x) ∧ Gapped (normAux lo hi r) := by
  induction r with
  | nil =>
    intro lo hi h _ _
    exact ⟨fun x => by simp [normAux, mem_singleton, mem_nil], by simpa [normAux, Gapped] using h⟩
  | cons p r ih =>
    intro lo hi hlh hInv hgt
    obtain ⟨l2, h2⟩ := p
    obtain ⟨hp, hpr, hr⟩ := Inv.cons_iff.1 hInv
    have hl2 : hi < l2 := hgt (l2, h2) (by simp)
    by_cases h : l2 ≤ hi + 1
    · obtain ⟨i1, i2⟩ := ih lo (max hi h2) (by omega) hr (fun q hq => by have := hpr q hq; omega)
      simp only [normAux, h, if_true]
      refine ⟨fun x => ?_, i2⟩
      rw [i1, mem_cons]
      -- `[lo, hi]` and `[l2, h2]` overlap or touch: together they are `[lo, max hi h2]`
      by_cases hm : mem r x
      · simp only [hm, or_true]
      · simp only [hm, or_false]
        omega
    · obtain ⟨i1, i2⟩ := ih l2 h2 hp.2.1 hr hpr
      simp only [normAux, h, if_false]
      refine ⟨fun x => by rw [mem_cons, i1, mem_cons], ?_, List.pairwise_cons.2 ⟨?_, i2.2⟩⟩
      · intro q hq
        rcases List.mem_cons.1 hq with rfl | hq
        · exact hlh
        · exact i2.1 q hq
      · -- a later run begins with a member, and the members are not below `l2`
        intro q hq
        rcases (i1 q.1).1 (mem_fst hq (i2.1 q hq)) with h' | ⟨p, hp', h', _⟩
        · simp only
          omega
        · have := hpr p hp'
          simp only
          omega

theorem norm_spec {s : MSet} (hInv : Inv s) : (∀ x, mem (norm s) x ↔ mem s x) ∧ Gapped (norm s) := by
  rcases s with _ | ⟨p, r⟩
  · exact ⟨fun x => Iff.rfl, by simp [norm, Gapped]⟩
  · obtain ⟨lo, hi⟩ := p
    obtain ⟨hp, hpr, hr⟩ := Inv.cons_iff.1 hInv
    obtain ⟨i1, i2⟩ := normAux_spec r lo hi hp.2.1 hr hpr
    exact ⟨fun x => by rw [norm, i1, mem_cons], i2⟩

/-- One half of `gapped_ext`: what inclusion of the members says about the first intervals. -/
theorem gapped_cons_sub {p q : Iv} {a' b' : MSet} (ha : Gapped (p :: a')) (hb : Gapped (q :: b'))
    (h : ∀ x, mem (p :: a') x → mem (q :: b') x) :
    q.1 ≤ p.1 ∧ (p.1 = q.1 → p.2 ≤ q.2) ∧ (p = q → ∀ x, mem a' x → mem b' x) := by
  have hp := ha.1 p (by simp)
  have hq := hb.1 q (by simp)
  have hpa : ∀ r ∈ a', p.2 + 1 < r.1 := (List.pairwise_cons.1 ha.2).1
  have hqb : ∀ r ∈ b', q.2 + 1 < r.1 := (List.pairwise_cons.1 hb.2).1
  refine ⟨?_, fun e1 => ?_, ?_⟩
  · obtain ⟨r, hr, h1, _⟩ := h p.1 (mem_fst (by simp) hp)
    rcases List.mem_cons.1 hr with rfl | hr
    · exact h1
    · have := hqb r hr; omega
  · -- otherwise `q.2 + 1` is in `p` but in no interval of `q :: b'`
    apply Classical.byContradiction
    intro hlt
    obtain ⟨r, hr, h1, h2⟩ := h (q.2 + 1) ⟨p, by simp, by omega, by omega⟩
    rcases List.mem_cons.1 hr with rfl | hr
    · omega
    · have := hqb r hr; omega
  · rintro rfl x ⟨r, hr, h1, h2⟩
    have := hpa r hr
    rcases mem_cons.1 (h x ⟨r, by simp [hr], h1, h2⟩) with h' | h'
    · omega
    · exact h'

theorem gapped_ext : ∀ (a b : MSet), Gapped a → Gapped b → (∀ x, mem a x ↔ mem b x) → a = b := by
  intro a
  induction a with
  | nil =>
    intro b _ hb h
    rcases b with _ | ⟨q, b'⟩
    · rfl
    · exact absurd ((h q.1).2 (mem_fst (by simp) (hb.1 q (by simp)))) (mem_nil _)
  | cons p a' ih =>
    intro b ha hb h
    rcases b with _ | ⟨q, b'⟩
    · exact absurd ((h p.1).1 (mem_fst (by simp) (ha.1 p (by simp)))) (mem_nil _)
    · obtain ⟨l1, r1, t1⟩ := gapped_cons_sub ha hb fun x => (h x).1
      obtain ⟨l2, r2, t2⟩ := gapped_cons_sub hb ha fun x => (h x).2
      have e1 : p.1 = q.1 := by omega
      obtain rfl : p = q := Prod.ext e1 (by have := r1 e1; have := r2 e1.symm; omega)
      rw [ih b' ⟨fun r hr => ha.1 r (by simp [hr]), (List.pairwise_cons.1 ha.2).2⟩
        ⟨fun r hr => hb.1 r (by simp [hr]), (List.pairwise_cons.1 hb.2).2⟩
        fun x => ⟨t1 rfl x, t2 rfl x⟩]

theorem equal_iff_of_inv {a b : MSet} (ha : Inv a) (hb : Inv b) :
    equal a b = .ok true ↔ ∀ x, mem a x ↔ mem b x := by
  obtain ⟨a1, a2⟩ := norm_spec ha
  obtain ⟨b1, b2⟩ := norm_spec hb
  rw [equal_eq]
  constructor
  · intro h x
    have h' : norm a = norm b := by simpa using h
    rw [← a1, ← b1, h']
  · intro h
    have : norm a = norm b := gapped_ext _ _ a2 b2 (fun x => by rw [a1, b1]; exact h x)
    simp [this]

/-! ### String: the numbers it prints -/

theorem mem_ivElems {lo hi x : Int} : x ∈ ivElems lo hi ↔ lo ≤ x ∧ x ≤ hi := by
  simp only [ivElems, List.mem_map, List.mem_range]
  constructor
  · rintro ⟨i, hi', rfl⟩; omega
  · intro h; exact ⟨(x - lo).toNat, by omega, by omega⟩

theorem ivElems_sorted (lo hi : Int) : (ivElems lo hi).Pairwise (· < ·) := by
  simp only [ivElems, List.pairwise_map]
  exact List.pairwise_lt_range.imp (fun h => by omega)

theorem ivElems_length {lo hi : Int} (h : lo ≤ hi) : ((ivElems lo hi).length : Int) = hi - lo + 1 := by
  simp [ivElems]; omega

theorem elems_spec {s : MSet} (hInv : Inv s) :
    ∃ l, elems s = .ok l ∧ l.Pairwise (· < ·) ∧ (∀ x, x ∈ l ↔ mem s x) ∧ (l.length : Int) = len s := by
  induction s with
  | nil => exact ⟨[], rfl, List.Pairwise.nil, by simp [mem_nil], by simp [len]⟩
  | cons p r ih =>
    obtain ⟨lo, hi⟩ := p
    obtain ⟨hp, _, hr⟩ := Inv.cons_iff.1 hInv
    obtain ⟨l, h1, h2, h3, h4⟩ := ih hr
    refine ⟨ivElems lo hi ++ l, ?_, ?_, ?_, ?_⟩
    · simp only [elems, h1]
      rw [if_neg (by omega)]
    · refine List.pairwise_append.2 ⟨ivElems_sorted lo hi, h2, ?_⟩
      intro x hx y hy
      have := mem_ivElems.1 hx
      have := hInv.lt_of_mem_tail ((h3 y).1 hy)
      omega
    · intro x
      rw [List.mem_append, mem_ivElems, h3, mem_cons]
    · rw [List.length_append]; push_cast
      rw [ivElems_length hp.2.1, h4]; simp [len]

end PegVerif.MSet
