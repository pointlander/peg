import PegVerif.Proofs.DiagLink
/-
  From the warning lines back to the linked grammar.  `Diag.render` is injective, so a line is printed iff
  its `Diag` is in `grammarDiags` (`render_mem_iff`); which `Diag`s those are say `emitDiag_eq_*` and
  `mem_grammarDiags_*`.  A result of `diagnostics` has two shapes, with and without a duplicate
  (`diagnostics_of_*`, `diagnostics_shape`, `dupError_none_iff`).
-/
namespace PegVerif

-- In the two lemmas below a literal is split by `simp` (which only has to append two literals) and
-- the short pieces are compared by `decide`; evaluating `length` or `toList` of the long literals is
-- what would be slow to check.

/-- The two `rule '…` lines differ in the third character from the end. -/
theorem render_ud_un (n n' : String) :
    "rule '" ++ n ++ "' used but not defined" ≠ "rule '" ++ n' ++ "' defined but not used" := by
  intro h
  have e1 : "' used but not defined" = "' used but not defi" ++ "ned" := by simp
  have e2 : "' defined but not used" = "' defined but not u" ++ "sed" := by simp
  rw [e1, e2, ← String.append_assoc, ← String.append_assoc] at h
  exact absurd (str_append_inj h (.inr (by decide))).2 (by decide)

/-- The left-recursion line starts with `p`, the other two with `r`. -/
theorem render_lr_rule (n n' s : String) :
    "possible infinite left recursion in rule '" ++ n ++ "'" ≠ "rule '" ++ n' ++ s := by
  intro h
  have e1 : "possible infinite left recursion in rule '" =
      "p" ++ "ossible infinite left recursion in rule '" := by simp
  have e2 : "rule '" = "r" ++ "ule '" := by simp
  rw [e1, e2] at h
  simp only [String.append_assoc] at h
  exact absurd (str_append_inj h (.inl (by decide))).1 (by decide)

theorem Diag.render_inj : ∀ {a b : Diag}, a.render = b.render → a = b
  | .leftRec _, .leftRec _, h | .undefinedRule _, .undefinedRule _, h | .unusedRule _, .unusedRule _, h =>
    congrArg _ (wrap_inj _ _ h)
  | .leftRec n, .undefinedRule n', h | .leftRec n, .unusedRule n', h => absurd h (render_lr_rule n n' _)
  | .undefinedRule n, .leftRec n', h | .unusedRule n, .leftRec n', h => absurd h.symm (render_lr_rule n' n _)
  | .undefinedRule n, .unusedRule n', h => absurd h (render_ud_un n n')
  | .unusedRule n, .undefinedRule n', h => absurd h.symm (render_ud_un n' n)

theorem render_mem_warnings (D : DiagResult) (d : Diag) : d.render ∈ D.warnings ↔ d ∈ D.diags := by
  simp only [DiagResult.warnings, List.mem_map]
  constructor
  · rintro ⟨d', hd', h⟩
    exact Diag.render_inj h ▸ hd'
  · exact fun h => ⟨d, h, rfl⟩

section Emit
variable {referenced reached : List String} {r : Rule}

theorem emitDiag_eq_some {d : Diag} : emitDiag referenced reached r = some d ↔
    (r.body = .nil ∧ .undefinedRule r.name = d ∧ r.name ∈ referenced) ∨
    (r.body ≠ .nil ∧ .unusedRule r.name = d ∧ r.name ∉ reached) := by
  unfold emitDiag
  split
  · next h => simp [h, and_comm]
  · next h => simp [show r.body ≠ .nil from h, and_comm]

theorem emitDiag_eq_none : emitDiag referenced reached r = none ↔
    (r.body = .nil → r.name ∉ referenced) ∧ (r.body ≠ .nil → r.name ∈ reached) := by
  unfold emitDiag
  split
  · next h => simp [h]
  · next h => simp [show r.body ≠ .nil from h]
end Emit

theorem mem_grammarDiags_leftRec (G : Grammar) (referenced : List String) (n : String) :
    .leftRec n ∈ grammarDiags G referenced ↔ n ∈ recWarnings G := by
  simp [grammarDiags, emitDiag_eq_some]

theorem mem_grammarDiags_undefined (G : Grammar) (referenced : List String) (n : String) :
    .undefinedRule n ∈ grammarDiags G referenced ↔
      ∃ r, r ∈ G.rules ∧ r.body = .nil ∧ r.name = n ∧ r.name ∈ referenced := by
  simp [grammarDiags, emitDiag_eq_some]

theorem mem_grammarDiags_unused (G : Grammar) (referenced : List String) (n : String) :
    .unusedRule n ∈ grammarDiags G referenced ↔
      ∃ r, r ∈ G.rules ∧ r.body ≠ .nil ∧ r.name = n ∧ r.name ∉ reachedNames G := by
  simp [grammarDiags, emitDiag_eq_some]

theorem grammarDiags_eq_nil (G : Grammar) (referenced : List String) :
    grammarDiags G referenced = [] ↔ recWarnings G = [] ∧
      (∀ r, r ∈ G.rules → r.body = .nil → r.name ∉ referenced) ∧
      (∀ r, r ∈ G.rules → r.body ≠ .nil → r.name ∈ reachedNames G) := by
  simp [grammarDiags, emitDiag_eq_none, forall_and]

theorem diagnostics_of_nodup {rules : List Rule} (h : (firstPass rules).2 = none) :
    diagnostics rules =
      { dupError := none, diags := grammarDiags (linkGrammar rules).G (linkGrammar rules).referenced,
        strictFails := !(grammarDiags (linkGrammar rules).G (linkGrammar rules).referenced).isEmpty } := by
  simp [diagnostics, linkGrammar_dup, h]

theorem diagnostics_of_dup {rules : List Rule} {n : String} (h : (firstPass rules).2 = some n) :
    diagnostics rules = { dupError := some ("rule '" ++ n ++ "' defined more than once"), diags := [],
                          strictFails := true } := by
  simp [diagnostics, linkGrammar_dup, h]

theorem diagnostics_shape (rules : List Rule) :
    (∃ n, diagnostics rules = ⟨some ("rule '" ++ n ++ "' defined more than once"), [], true⟩) ∨
      ∃ ds, diagnostics rules = ⟨none, ds, !ds.isEmpty⟩ := by
  cases h : (firstPass rules).2 with
  | none => exact .inr ⟨_, diagnostics_of_nodup h⟩
  | some n => exact .inl ⟨n, diagnostics_of_dup h⟩

theorem dupError_none_iff {rules : List Rule} :
    (diagnostics rules).dupError = none ↔ (firstPass rules).2 = none := by
  cases h : (firstPass rules).2 with
  | none => simp [diagnostics_of_nodup h]
  | some n => simp [diagnostics_of_dup h]

theorem render_mem_iff {rules : List Rule} (hdup : (diagnostics rules).dupError = none) (d : Diag) :
    d.render ∈ (diagnostics rules).warnings ↔
      d ∈ grammarDiags (linkGrammar rules).G (linkGrammar rules).referenced := by
  rw [render_mem_warnings, diagnostics_of_nodup (dupError_none_iff.mp hdup)]

theorem leftRec_warned_iff {rules : List Rule} (hdup : (diagnostics rules).dupError = none) (n : String) :
    ("possible infinite left recursion in rule '" ++ n ++ "'") ∈ (diagnostics rules).warnings ↔
      n ∈ recWarnings (linkGrammar rules).G :=
  (render_mem_iff hdup (.leftRec n)).trans (mem_grammarDiags_leftRec _ _ _)

end PegVerif
