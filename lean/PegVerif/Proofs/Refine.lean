import PegVerif.Proofs.RefineSwitch
/-
  Refinement theorem — the induction over the derivation that puts the cases together (`RG_all`),
  for any mode and any class of expressions closed under taking the premises of a derivation on
  which the mode handles the nodes that touch the state (`Cases`).
-/
namespace PegVerif

variable {M : Mode} {ua : Bool} {P : Program} {cfg : Cfg} {env : CEnv} {G : Grammar} {inp : List Sym}

/-- `Part e c`: a derivation of `e` may have a derivation of `c` as a premise (rule bodies apart).
    Unlike the syntactic `Child` (TotalLemmas.lean, arguments the other way round) it has the tails
    on which the rules for sequence, choice and `+` recurse. -/
inductive Part : Expr → Expr → Prop where
  | inl {n e} : Part (.inl n e) e
  | peekFor {e} : Part (.peekFor e) e
  | peekNot {e} : Part (.peekNot e) e
  | query {e} : Part (.query e) e
  | star {e} : Part (.star e) e
  | plus {e} : Part (.plus e) e
  | plus_star {e} : Part (.plus e) (.star e)
  | push {e r} : Part (.push e r) e
  | ipush {e r} : Part (.ipush e r) e
  | seq_head {e es} : Part (.seq (e :: es)) e
  | seq_tail {e es} : Part (.seq (e :: es)) (.seq es)
  | alt_head {e es} : Part (.alt (e :: es)) e
  | alt_tail {e e' es} : Part (.alt (e :: e' :: es)) (.alt (e' :: es))
  | ualt {ks es e} : e ∈ es → Part (.ualt ks es) e

theorem fineS_part {e c : Expr} (h : e.fineS P) (hp : Part e c) : c.fineS P := by
  cases hp with
  | ualt hc => exact fineSL_mem h.2.1 _ hc
  | _ => simp_all [Expr.fineS, fineSL]

variable (M ua P cfg env G inp) in
/-- What the induction needs of a class `A` of expressions: it is closed under the premises of
    derivations, lies within the fragment `Expr.fineS` (with `-switch` nodes only if `ua`), and the
    mode handles its state-touching nodes. -/
structure Cases (A : Expr → Prop) : Prop where
  inpOK : ∀ c ∈ inp, c ≠ END
  part : ∀ {e c}, A e → Part e c → A c
  body : ∀ {n b}, A (.name n) → G.body n = some b → A b
  fineS : ∀ {e}, A e → e.fineS P
  ualt : ∀ {ks es}, A (.ualt ks es) → ua = true
  name : ∀ {n b p res evs}, A (.name n) → G.body n = some b → Eval G cfg.rho inp b p res evs →
    GoodG M ua P cfg env inp b p res evs → GoodG M ua P cfg env inp (.name n) p res evs
  stmt : ∀ {c p}, A (.stmt c) → GoodG M ua P cfg env inp (.stmt c) p (.ok p []) []
  push_ok : ∀ {e r p p1 f1 evs}, A (.push e r) → e.isAct = false →
    Eval G cfg.rho inp e p (.ok p1 f1) evs → GoodG M ua P cfg env inp e p (.ok p1 f1) evs →
    GoodG M ua P cfg env inp (.push e r) p (.ok p1 [.node ⟨r, p, p1⟩ f1]) (evs ++ [⟨r, p, p1⟩])
  push_act : ∀ {c r p}, A (.push (.act c) r) →
    GoodG M ua P cfg env inp (.push (.act c) r) p (.ok p [.node ⟨r, p, p⟩ []]) [⟨r, p, p⟩]
  ipush_ok : ∀ {e r p p1 f1 evs}, A (.ipush e r) → e.isAct = false →
    Eval G cfg.rho inp e p (.ok p1 f1) evs → GoodG M ua P cfg env inp e p (.ok p1 f1) evs →
    GoodG M ua P cfg env inp (.ipush e r) p (.ok p1 [.node ⟨r, p, p1⟩ f1]) (evs ++ [⟨r, p, p1⟩])
  ipush_act : ∀ {c r p}, A (.ipush (.act c) r) →
    GoodG M ua P cfg env inp (.ipush (.act c) r) p (.ok p [.node ⟨r, p, p⟩ []]) [⟨r, p, p⟩]

/-- The three statements proved together by induction on the derivation. -/
def MotiveG (M : Mode) (ua : Bool) (P : Program) (cfg : Cfg) (env : CEnv) (inp : List Sym)
    (e : Expr) (p : Nat) (res : Res) (evs : List Token) : Prop :=
  GoodG M ua P cfg env inp e p res evs ∧
    match e with
    | .alt es => GoodAltG M ua P cfg env inp es p res evs
    | .star e' => GoodLoopG M ua P cfg env inp e' p res evs
    | _ => True

/-- **The refinement theorem**: for every derivation of the PEG semantics of an expression of the
    class, the emitted code of the expression does the same, from any point of any rule body. -/
theorem RG_all {A : Expr → Prop} (hC : Cases M ua P cfg env G inp A) {e p res evs}
    (h : Eval G cfg.rho inp e p res evs) : A e → MotiveG M ua P cfg env inp e p res evs := by
  induction h with
  | dot_ok h => exact fun _ => ⟨goodG_dot_ok hC.inpOK h, trivial⟩
  | dot_fail h => exact fun _ => ⟨goodG_dot_fail h, trivial⟩
  | chr_ok h => exact fun _ => ⟨goodG_chr_ok h, trivial⟩
  | chr_fail h => exact fun ha => ⟨goodG_chr_fail (hC.fineS ha) h, trivial⟩
  | rng_ok h hl hh => exact fun _ => ⟨goodG_rng_ok h hl hh, trivial⟩
  | rng_fail h => exact fun ha => ⟨goodG_rng_fail (hC.fineS ha) h, trivial⟩
  | str_ok _ => exact fun ha => (hC.fineS ha).elim
  | str_fail _ => exact fun ha => (hC.fineS ha).elim
  | name hb hev ih => exact fun ha => ⟨hC.name ha hb hev (ih (hC.body ha hb)).1, trivial⟩
  | inl _ ih => exact fun ha => ⟨goodG_inl (ih (hC.part ha .inl)).1, trivial⟩
  | pred_ok h => exact fun _ => ⟨goodG_pred_ok h, trivial⟩
  | pred_fail h => exact fun _ => ⟨goodG_pred_fail h, trivial⟩
  | stmt => exact fun ha => ⟨hC.stmt ha, trivial⟩
  | act => exact fun _ => ⟨goodG_act, trivial⟩
  | nil => exact fun _ => ⟨goodG_nil, trivial⟩
  | seq_nil => exact fun _ => ⟨goodG_seq_nil, trivial⟩
  | seq_fail _ ih => exact fun ha => ⟨goodG_seq_fail (ih (hC.part ha .seq_head)).1, trivial⟩
  | seq_ok_fail h1 h2 ih1 ih2 =>
    exact fun ha => ⟨goodG_seq_ok_fail h1 h2 (ih1 (hC.part ha .seq_head)).1
      (ih2 (hC.part ha .seq_tail)).1, trivial⟩
  | seq_ok h1 h2 ih1 ih2 =>
    exact fun ha => ⟨goodG_seq_ok h1 h2 (ih1 (hC.part ha .seq_head)).1
      (ih2 (hC.part ha .seq_tail)).1, trivial⟩
  | alt_last _ ih =>
    intro ha
    have g := goodAltG_last (ih (hC.part ha .alt_head)).1
    exact ⟨goodG_alt_of_tail g, g⟩
  | @alt_ok _ e' es _ _ _ _ _ ih =>
    intro ha
    have g := goodAltG_ok (e' := e') (es := es) (ih (hC.part ha .alt_head)).1
    exact ⟨goodG_alt_of_tail g, g⟩
  | alt_next _ _ ih1 ih2 =>
    intro ha
    have g := goodAltG_next (ih1 (hC.part ha .alt_head)).1
      (ih2 (hC.part ha .alt_tail)).2
    exact ⟨goodG_alt_of_tail g, g⟩
  | ualt hidx _ ih =>
    exact fun ha => ⟨goodG_ualt (hC.ualt ha) hidx (hC.fineS ha).2.2
      (ih (hC.part ha (.ualt (List.mem_of_getElem? hidx)))).1, trivial⟩
  | peekFor_ok _ ih => exact fun ha => ⟨goodG_peekFor_ok (ih (hC.part ha .peekFor)).1, trivial⟩
  | peekFor_fail _ ih => exact fun ha => ⟨goodG_peekFor_fail (ih (hC.part ha .peekFor)).1, trivial⟩
  | peekNot_ok _ ih => exact fun ha => ⟨goodG_peekNot_ok (ih (hC.part ha .peekNot)).1, trivial⟩
  | peekNot_fail _ ih => exact fun ha => ⟨goodG_peekNot_fail (ih (hC.part ha .peekNot)).1, trivial⟩
  | query_ok _ ih => exact fun ha => ⟨goodG_query_ok (ih (hC.part ha .query)).1, trivial⟩
  | query_none _ ih => exact fun ha => ⟨goodG_query_none (ih (hC.part ha .query)).1, trivial⟩
  | star_stop _ ih =>
    intro ha
    have g := goodLoopG_stop (ih (hC.part ha .star)).1
    exact ⟨goodG_star_of_loop g, g⟩
  | star_step h1 _ ih1 ih2 =>
    intro ha
    have g := goodLoopG_step h1 (ih1 (hC.part ha .star)).1 (ih2 ha).2
    exact ⟨goodG_star_of_loop g, g⟩
  | plus_fail _ ih => exact fun ha => ⟨goodG_plus_fail (ih (hC.part ha .plus)).1, trivial⟩
  | plus_ok h1 _ ih1 ih2 =>
    exact fun ha => ⟨goodG_plus_ok h1 (ih1 (hC.part ha .plus)).1
      (ih2 (hC.part ha .plus_star)).2, trivial⟩
  | push_ok hn hev ih =>
    exact fun ha => ⟨hC.push_ok ha hn hev (ih (hC.part ha .push)).1, trivial⟩
  | push_fail hn _ ih =>
    exact fun ha => ⟨goodG_wrap_fail (compile_push_nonact hn _) (ih (hC.part ha .push)).1, trivial⟩
  | push_act => exact fun ha => ⟨hC.push_act ha, trivial⟩
  | ipush_ok hn hev ih =>
    exact fun ha => ⟨hC.ipush_ok ha hn hev (ih (hC.part ha .ipush)).1, trivial⟩
  | ipush_fail hn _ ih =>
    exact fun ha => ⟨goodG_wrap_fail (compile_ipush_nonact hn _) (ih (hC.part ha .ipush)).1, trivial⟩
  | ipush_act => exact fun ha => ⟨hC.ipush_act ha, trivial⟩

end PegVerif
