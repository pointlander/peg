import PegVerif.Proofs.RefineDefs
import PegVerif.Model.Checkers
/-
  Definitions for the refinement theorems RN and RNS: the emitted code of a parser generated with
  `-noast` (`cfg.ast = false`, `env.ast = false`) does what the PEG semantics says, and runs every
  action inline, at the moment it is reached, with the text of the most recently completed capture.
  RN is about programs without `-switch` nodes (fragment `Expr.fine`, `parentDetect` flags never
  set); RNS quantifies over the flags under `Lead`, covers `Expr.fineS` and assumes `SUniq` of the
  code, as `Good` (RefineTopDefs.lean) does.  `PreN`, `GoodN`, `GoodAltN`, `GoodLoopN`, `MotiveN` and
  their `…NS` counterparts are these two statements spelt out (`RN_all`, `RNS_all`); the proofs work
  with `GoodG` at `noastMode` (RefineNoast.lean) and nothing consumes these definitions.

  Differences to the AST mode (RefineTopDefs):
    * `<e>` emits `cap` (sets `text`) instead of `add`; an action rule emits the action's code as a
      statement instead of `add`; `add` (rule tokens) leaves the token buffer alone;
    * rule functions have neither `memoCheck` nor `memoSave`; the entry save exists iff something
      jumps to the rule's failure label;
    * `restore` does not undo `text` and `trace`.
  So the postconditions say nothing about the token buffer except "untouched"; instead they
  prescribe `text` and `trace` by a fold over the *events* `evs` of the derivation (every completed
  token-producing node, including those of failed alternatives and of lookahead).
-/
namespace PegVerif

/-! ### `reachTrace` (Model/NoastSpec.lean) as a fold -/

namespace Noast

theorem inlineStep_fst_append (codeOf : String → Option String) (inp : List Sym) (tr : List (String × List Sym))
    (tx : List Sym) (t : Token) :
    inlineStep codeOf inp (tr, tx) t =
      (tr ++ (inlineStep codeOf inp ([], tx) t).1, (inlineStep codeOf inp ([], tx) t).2) := by
  unfold inlineStep
  split
  · simp
  · split <;> simp

/-- The fold from an arbitrary trace is the trace followed by `reachTrace`. -/
theorem foldl_inlineStep (codeOf : String → Option String) (inp : List Sym) (evs : List Token) :
    ∀ (tr : List (String × List Sym)) (tx : List Sym),
    evs.foldl (inlineStep codeOf inp) (tr, tx) =
      (tr ++ (reachTrace codeOf inp evs tx).1, (reachTrace codeOf inp evs tx).2) := by
  induction evs with
  | nil => intro tr tx; simp [reachTrace]
  | cons t ts ih =>
    intro tr tx
    simp only [List.foldl_cons, reachTrace]
    rw [inlineStep_fst_append]
    rw [ih, ih (inlineStep codeOf inp ([], tx) t).1]
    simp [List.append_assoc]

theorem reachTrace_append (codeOf : String → Option String) (inp : List Sym) (a b : List Token) (tx : List Sym) :
    reachTrace codeOf inp (a ++ b) tx =
      ((reachTrace codeOf inp a tx).1 ++ (reachTrace codeOf inp b (reachTrace codeOf inp a tx).2).1,
        (reachTrace codeOf inp b (reachTrace codeOf inp a tx).2).2) := by
  simp only [reachTrace, List.foldl_append]
  exact foldl_inlineStep codeOf inp b _ _

end Noast
open Noast

/-- The events that are tokens under `-noast`: captures are not. -/
def noCap (evs : List Token) : List Token := evs.filter (fun t => t.rule != "PegText")

theorem noCap_append (a b : List Token) : noCap (a ++ b) = noCap a ++ noCap b := by
  simp [noCap]

@[simp] theorem noCap_nil : noCap [] = [] := rfl

mutual
  /-- Well-formedness under `-noast` (what `link` establishes): captures are exactly the nodes named
      "PegText" and never wrap a bare action; an implicit push is named by an action rule
      (`codeOf`) iff it wraps a bare action, with that code; the code of an action is compared
      (`keep`), the code of a state-change statement `!{…}` is not (it also goes to the machine's
      trace but is not an event of the semantics). -/
  def Expr.okN (K : NKit) : Expr → Prop
    | .dot => True
    | .chr _ => True
    | .rng _ _ => True
    | .str _ => True
    | .name _ => True
    | .inl _ e => e.okN K
    | .pred _ => True
    | .stmt c => K.keep c = false
    | .act _ => True
    | .seq es => okNL K es
    | .alt es => okNL K es
    | .ualt _ es => okNL K es
    | .peekFor e => e.okN K
    | .peekNot e => e.okN K
    | .query e => e.okN K
    | .star e => e.okN K
    | .plus e => e.okN K
    | .push e r => r = "PegText" ∧ e.isAct = false ∧ e.okN K
    | .ipush e r => r ≠ "PegText" ∧ (∀ c, e = .act c → K.codeOf r = some c ∧ K.keep c = true) ∧
        (e.isAct = false → K.codeOf r = none) ∧ e.okN K
    | .nil => True
  def okNL (K : NKit) : List Expr → Prop
    | [] => True
    | e :: es => e.okN K ∧ okNL K es
end

theorem okNL_mem {K : NKit} : ∀ {es : List Expr}, okNL K es → ∀ e ∈ es, e.okN K
  | [], _, e, he => by cases he
  | a :: as, h, e, he => by
    simp only [okNL] at h
    cases he with
    | head => exact h.1
    | tail _ he' => exact okNL_mem h.2 e he'

/-- What the proof observes of a machine state: the compared part of the trace, and `text`. -/
def obsN (K : NKit) (s : St) : Obs := (s.trace.filter (fun x => K.keep x.1), s.text)

/-- Static facts about a `-noast` program and the run that RN relies on. -/
structure WorldN (K : NKit) (P : Program) (cfg : Cfg) (env : CEnv) (G : Grammar) (inp : List Sym) : Prop where
  ast : cfg.ast = false
  envAst : env.ast = false
  inpOK : ∀ c ∈ inp, c ≠ END
  always : ∀ n, env.always n = true → ∀ p evs, ¬ Eval G cfg.rho inp (.name n) p .fail evs
  /-- Every emitted function is the emission (with the `-noast` shape of `ruleFunc`) of its rule's body. -/
  rules : ∀ n cr, P.find n = some cr → ∃ (r : Rule) (b : Expr) (kr : Nat) (stb : CSt),
    G.body n = some b ∧ cr = (ruleFunc env r b kr stb).1 ∧ kr < stb.label ∧ Uniq cr ∧
    (∀ l ∈ jumps cr, env.used l = true) ∧ b.fine P ∧ b.okN K

structure PreN (env : CEnv) (inp : List Sym) (code : Code) (s : St) (p : Nat) : Prop where
  uniq : Uniq code
  used : ∀ l ∈ jumps code, env.used l = true
  pos : s.pos = p
  ple : p ≤ inp.length

/-- The effect of an attempt (successful or not) with events `evs` on everything but the position
    and `tokenIndex`: saves of enclosing constructs intact, `maxToken` folded over every attempted
    token that is not a capture, trace and `text` as the inline execution of the events prescribes,
    token buffer and memo table untouched.  (Position and `tokenIndex` are prescribed separately on
    success; on failure they are restored at the label site.) -/
structure EffN (K : NKit) (inp : List Sym) (lbl : Nat) (s : St) (f : Frame) (s' : St) (f' : Frame)
    (evs : List Token) : Prop where
  frame : ∀ n, n < lbl → f' n = f n
  maxTok : s'.maxTok = (noCap evs).foldl updTok s.maxTok
  obs : obsN K s' = evs.foldl (inlineStep K.codeOf inp) (obsN K s)
  tree : s'.tree = s.tree
  memo : s'.memo = s.memo

section
variable (K : NKit) (P : Program) (cfg : Cfg) (env : CEnv) (inp : List Sym)

/-- The emitted `-noast` code of `e` refines the outcome `res` of the PEG semantics at `p`. -/
def GoodN (e : Expr) (p : Nat) (res : Res) (evs : List Token) : Prop :=
  ∀ (ko : Nat) (st : CSt) (code : Code) (pc : Nat) (s : St) (f : Frame),
    CodeAt code pc (compile env e ko false false st).code → PreN env inp code s p →
    match res with
    | .ok p' _ => ∃ s' f', s'.pos = p' ∧ EffN K inp st.label s f s' f' evs ∧
        Steps P cfg inp code pc s f (pc + (compile env e ko false false st).code.length) s' f'
    | .fail => ∃ s'' f'', EffN K inp st.label s f s'' f'' evs ∧
        ko ∈ jumps (compile env e ko false false st).code ∧
        ∀ pcko, labelPos code ko = some pcko → Steps P cfg inp code pc s f pcko s'' f''

/-- Tail of an ordered choice; slot `ok` holds the choice's entry position. -/
def GoodAltN (es : List Expr) (p : Nat) (res : Res) (evs : List Token) : Prop :=
  ∀ (ok ko : Nat) (st : CSt) (code : Code) (pc : Nat) (s : St) (f : Frame),
    CodeAt code pc ((compileAlt env es ok ko false false st).code ++ [Instr.be] ++ env.lbl ok) →
    PreN env inp code s p → ok < st.label → (f ok).1 = p →
    match res with
    | .ok p' _ => ∃ s' f', s'.pos = p' ∧ EffN K inp st.label s f s' f' evs ∧
        Steps P cfg inp code pc s f
          (pc + (compileAlt env es ok ko false false st).code.length + 1 + (env.lbl ok).length) s' f'
    | .fail => ∃ s'' f'', EffN K inp st.label s f s'' f'' evs ∧
        ko ∈ jumps (compileAlt env es ok ko false false st).code ∧
        ∀ pcko, labelPos code ko = some pcko → Steps P cfg inp code pc s f pcko s'' f''

def GoodLoopN (e : Expr) (p : Nat) (res : Res) (evs : List Token) : Prop :=
  ∀ (again out : Nat) (stb : CSt) (code : Code) (pc : Nat) (s : St) (f : Frame),
    CodeAt code pc (loopCode env e again out stb) → PreN env inp code s p →
    again < stb.label → out < stb.label →
    match res with
    | .ok p' _ => ∃ s' f', s'.pos = p' ∧ EffN K inp (min again out) s f s' f' evs ∧
        (∀ n, n < stb.label → n ≠ out → f' n = f n) ∧
        Steps P cfg inp code pc s f (pc + (loopCode env e again out stb).length) s' f'
    | .fail => False

end

variable {K : NKit} {inp : List Sym}

theorem EffN.from_repos {lbl s f s' f' evs} {p t : Nat}
    (h : EffN K inp lbl { s with pos := p, ti := t } f s' f' evs) : EffN K inp lbl s f s' f' evs :=
  ⟨h.frame, h.maxTok, h.obs, h.tree, h.memo⟩

/-- The effect of a whole rule function on the shared state (no frame: the callee's locals die). -/
structure StEffN (K : NKit) (inp : List Sym) (s s' : St) (evs : List Token) : Prop where
  maxTok : s'.maxTok = (noCap evs).foldl updTok s.maxTok
  obs : obsN K s' = evs.foldl (inlineStep K.codeOf inp) (obsN K s)
  tree : s'.tree = s.tree
  memo : s'.memo = s.memo

theorem EffN.st {lbl s f s' f' evs} (h : EffN K inp lbl s f s' f' evs) : StEffN K inp s s' evs :=
  ⟨h.maxTok, h.obs, h.tree, h.memo⟩

def MotiveN (K : NKit) (P : Program) (cfg : Cfg) (env : CEnv) (inp : List Sym) (e : Expr) (p : Nat)
    (res : Res) (evs : List Token) : Prop :=
  e.fine P → e.okN K →
    GoodN K P cfg env inp e p res evs ∧
    (∀ es, e = .alt es → GoodAltN K P cfg env inp es p res evs) ∧
    (∀ e', e = .star e' → GoodLoopN K P cfg env inp e' p res evs)

/-- What the emitted `-noast` function of rule `n` returns, as prescribed by the semantics of `n`:
    verdict, end position (the entry position on failure), and the effect on the shared state —
    `maxToken`, inline trace, `text`; token buffer and memo table untouched. -/
def RuleSpecN (K : NKit) (inp : List Sym) (s : St) (p : Nat) (res : Res) (evs : List Token)
    (o : Outcome) (s' : St) : Prop :=
  match res with
  | .ok p' _ => o = .ret true ∧ s'.pos = p' ∧ StEffN K inp s s' evs
  | .fail => o = .ret false ∧ s'.pos = p ∧ StEffN K inp s s' evs

/-! ### With `-switch` nodes -/

/-- Static facts about a `-noast` program that may contain `-switch` nodes: `WorldN` with the
    fragment `Expr.fineS` in place of `Expr.fine`. -/
structure WorldNS (K : NKit) (P : Program) (cfg : Cfg) (env : CEnv) (G : Grammar) (inp : List Sym) : Prop where
  ast : cfg.ast = false
  envAst : env.ast = false
  inpOK : ∀ c ∈ inp, c ≠ END
  always : ∀ n, env.always n = true → ∀ p evs, ¬ Eval G cfg.rho inp (.name n) p .fail evs
  rules : ∀ n cr, P.find n = some cr → ∃ (r : Rule) (b : Expr) (kr : Nat) (stb : CSt),
    G.body n = some b ∧ cr = (ruleFunc env r b kr stb).1 ∧ kr < stb.label ∧ Uniq cr ∧
    (∀ l ∈ jumps cr, env.used l = true) ∧ b.fineS P ∧ b.okN K

theorem WorldNS.body_of_find {K : NKit} {P : Program} {cfg : Cfg} {env : CEnv} {G : Grammar}
    {inp : List Sym} (hW : WorldNS K P cfg env G inp) {n cr} (h : P.find n = some cr) :
    ∃ b, G.body n = some b := by
  obtain ⟨_, b, _, _, hb, _⟩ := hW.rules n cr h
  exact ⟨b, hb⟩

theorem WorldN.toS {K : NKit} {P : Program} {cfg : Cfg} {env : CEnv} {G : Grammar} {inp : List Sym}
    (h : WorldN K P cfg env G inp) : WorldNS K P cfg env G inp where
  ast := h.ast
  envAst := h.envAst
  inpOK := h.inpOK
  always := h.always
  rules := by
    intro n cr hf
    obtain ⟨r, b, kr, stb, hb, hcode, hlt, huniq, hused, hfine, hok⟩ := h.rules n cr hf
    exact ⟨r, b, kr, stb, hb, hcode, hlt, huniq, hused, hfine.fineS, hok⟩

structure PreNS (env : CEnv) (inp : List Sym) (code : Code) (s : St) (p : Nat) : Prop where
  uniq : Uniq code
  suniq : SUniq code
  used : ∀ l ∈ jumps code, env.used l = true
  pos : s.pos = p
  ple : p ≤ inp.length

section
variable (K : NKit) (P : Program) (cfg : Cfg) (env : CEnv) (inp : List Sym)

/-- `GoodN` for every setting of the `parentDetect`/`parentMultipleKey` flags under which the elided
    terminal tests would have passed (`Lead`). -/
def GoodNS (e : Expr) (p : Nat) (res : Res) (evs : List Token) : Prop :=
  ∀ (ko : Nat) (pd pmk : Bool) (st : CSt) (code : Code) (pc : Nat) (s : St) (f : Frame),
    CodeAt code pc (compile env e ko pd pmk st).code → PreNS env inp code s p →
    Lead inp p pd pmk e →
    match res with
    | .ok p' _ => ∃ s' f', s'.pos = p' ∧ EffN K inp st.label s f s' f' evs ∧
        Steps P cfg inp code pc s f (pc + (compile env e ko pd pmk st).code.length) s' f'
    | .fail => ∃ s'' f'', EffN K inp st.label s f s'' f'' evs ∧
        ko ∈ jumps (compile env e ko pd pmk st).code ∧
        ∀ pcko, labelPos code ko = some pcko → Steps P cfg inp code pc s f pcko s'' f''

def GoodAltNS (es : List Expr) (p : Nat) (res : Res) (evs : List Token) : Prop :=
  ∀ (ok ko : Nat) (pd pmk : Bool) (st : CSt) (code : Code) (pc : Nat) (s : St) (f : Frame),
    CodeAt code pc ((compileAlt env es ok ko pd pmk st).code ++ [Instr.be] ++ env.lbl ok) →
    PreNS env inp code s p → ok < st.label → (f ok).1 = p →
    LeadL inp p pd pmk es →
    match res with
    | .ok p' _ => ∃ s' f', s'.pos = p' ∧ EffN K inp st.label s f s' f' evs ∧
        Steps P cfg inp code pc s f
          (pc + (compileAlt env es ok ko pd pmk st).code.length + 1 + (env.lbl ok).length) s' f'
    | .fail => ∃ s'' f'', EffN K inp st.label s f s'' f'' evs ∧
        ko ∈ jumps (compileAlt env es ok ko pd pmk st).code ∧
        ∀ pcko, labelPos code ko = some pcko → Steps P cfg inp code pc s f pcko s'' f''

def GoodLoopNS (e : Expr) (p : Nat) (res : Res) (evs : List Token) : Prop :=
  ∀ (again out : Nat) (stb : CSt) (code : Code) (pc : Nat) (s : St) (f : Frame),
    CodeAt code pc (loopCode env e again out stb) → PreNS env inp code s p →
    again < stb.label → out < stb.label →
    match res with
    | .ok p' _ => ∃ s' f', s'.pos = p' ∧ EffN K inp (min again out) s f s' f' evs ∧
        (∀ n, n < stb.label → n ≠ out → f' n = f n) ∧
        Steps P cfg inp code pc s f (pc + (loopCode env e again out stb).length) s' f'
    | .fail => False

end

theorem PreNS.toPreN {env inp code s p} (hp : PreNS env inp code s p) : PreN env inp code s p :=
  ⟨hp.uniq, hp.used, hp.pos, hp.ple⟩


def MotiveNS (K : NKit) (P : Program) (cfg : Cfg) (env : CEnv) (inp : List Sym) (e : Expr) (p : Nat)
    (res : Res) (evs : List Token) : Prop :=
  e.fineS P → e.okN K →
    GoodNS K P cfg env inp e p res evs ∧
    (∀ es, e = .alt es → GoodAltNS K P cfg env inp es p res evs) ∧
    (∀ e', e = .star e' → GoodLoopNS K P cfg env inp e' p res evs)

end PegVerif
