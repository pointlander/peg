import PegVerif.Model.Machine
import PegVerif.Model.Compile
/-
  Code fragments inside a rule body (`CodeAt`), and `Steps`, "the run from this point passes through
  that point".  `Steps` is stated from the end backwards — whatever a run from the second point
  returns, a run from the first point returns too — so that segments compose (`Steps.trans`) with no
  fuel or step count to add up.  Between the two: what `labelsOf`, `jumps` and `count` give on the
  shapes of emitted code, and that a lookup of an instruction occurring once finds it
  (`findIdx?_of_count_le_one`, hence `labelPos_of_uniq`).
-/
namespace PegVerif

/-- The fragment `c` sits in `code` at offset `pc`: how the refinement theorem speaks of the code of a
    subexpression inside the body of a rule function. -/
def CodeAt (code : Code) (pc : Nat) (c : Code) : Prop :=
  ∃ pre post, code = pre ++ c ++ post ∧ pre.length = pc

theorem CodeAt.head {code pc i c} (h : CodeAt code pc (i :: c)) :
    code[pc]? = some i ∧ CodeAt code (pc + 1) c := by
  obtain ⟨pre, post, rfl, rfl⟩ := h
  refine ⟨by simp, pre ++ [i], post, by simp, by simp⟩

theorem CodeAt.left {code pc a b} (h : CodeAt code pc (a ++ b)) : CodeAt code pc a := by
  obtain ⟨pre, post, rfl, rfl⟩ := h
  exact ⟨pre, b ++ post, by simp, rfl⟩

theorem CodeAt.right {code pc a b} (h : CodeAt code pc (a ++ b)) :
    CodeAt code (pc + a.length) b := by
  obtain ⟨pre, post, rfl, rfl⟩ := h
  exact ⟨pre ++ a, post, by simp, by simp⟩

/-- Both pieces at once, to name the pieces of a fragment one after the other. -/
theorem CodeAt.split {code pc a b} (h : CodeAt code pc (a ++ b)) :
    CodeAt code pc a ∧ CodeAt code (pc + a.length) b :=
  ⟨h.left, h.right⟩

theorem CodeAt.nil_of {code pc} (h : pc ≤ code.length) : CodeAt code pc [] :=
  ⟨code.take pc, code.drop pc, by simp, by simp [Nat.min_eq_left h]⟩

/-- The whole code, seen in the shape `c`, while the ambient code keeps its name. -/
theorem CodeAt.whole_eq {code c : Code} (h : code = c) : CodeAt code 0 c :=
  ⟨[], [], by simp [h], rfl⟩

def labelsOf (c : Code) : List Nat := c.filterMap (fun i => match i with | .label l => some l | _ => none)

/-- Every label is defined at most once, so that `labelPos` finds the intended one
    (`labelPos_of_uniq`). -/
def Uniq (code : Code) : Prop := (labelsOf code).Nodup

theorem labelsOf_append (a b : Code) : labelsOf (a ++ b) = labelsOf a ++ labelsOf b := by
  simp [labelsOf, List.filterMap_append]

theorem jumps_append (a b : Code) : jumps (a ++ b) = jumps a ++ jumps b := by
  simp [jumps, List.filterMap_append]

theorem jumps_cons (i : Instr) (c : Code) : jumps (i :: c) = i.target?.toList ++ jumps c := by
  simp only [jumps, List.filterMap_cons]
  cases h : i.target? <;> simp

theorem jumps_nil : jumps [] = [] := rfl

theorem jumps_nil' : jumps [] = [] := rfl

theorem jumps_lbl (env : CEnv) (n : Nat) : jumps (env.lbl n) = [] := by
  unfold CEnv.lbl; split <;> rfl

theorem jumps_ite (p : Prop) [Decidable p] (a b : Code) :
    jumps (if p then a else b) = if p then jumps a else jumps b := by
  split <;> rfl

theorem jumps_ruleFunc (env : CEnv) (r : Rule) (b : Expr) (ko : Nat) (st : CSt) :
    jumps (ruleFunc env r b ko st).1 = jumps (compile env b ko false false st).code := by
  simp only [ruleFunc, jumps_append, jumps_cons, jumps_nil, jumps_ite, Instr.target?, Option.toList]
  repeat' split
  all_goals simp

theorem jumps_sub_of_codeAt {code pc c} (h : CodeAt code pc c) : ∀ l ∈ jumps c, l ∈ jumps code := by
  obtain ⟨pre, post, rfl, _⟩ := h
  intro l hl
  simp [jumps_append, hl]

theorem findIdx?_first {i : Instr} {pre post : Code} (h : i ∉ pre) :
    (pre ++ i :: post).findIdx? (· == i) = some pre.length := by
  rw [List.findIdx?_eq_some_iff_getElem]
  refine ⟨by simp, by simp, ?_⟩
  intro j hj
  simp only [List.getElem_append_left hj]
  intro hc
  apply h
  have : pre[j] = i := by simpa using hc
  rw [← this]; exact List.getElem_mem hj

/-- For the machine's lookups `labelPos`, `slabelPos`, `sendPos`. -/
theorem findIdx?_of_count_le_one {i : Instr} {code : Code} {pc : Nat} {c : Code}
    (hu : code.count i ≤ 1) (h : CodeAt code pc (i :: c)) : code.findIdx? (· == i) = some pc := by
  obtain ⟨pre, post, rfl, rfl⟩ := h
  have hnot : i ∉ pre := by
    intro hin
    have := List.count_pos_iff.mpr hin
    simp only [List.append_assoc, List.cons_append, List.count_append, List.count_cons_self] at hu
    omega
  simpa only [List.append_assoc, List.cons_append] using findIdx?_first (post := c ++ post) hnot

theorem count_ite (i : Instr) (p : Prop) [Decidable p] (a b : Code) :
    (if p then a else b).count i = if p then a.count i else b.count i := by
  split <;> rfl

theorem count_label_lbl (env : CEnv) (n l : Nat) :
    (env.lbl n).count (.label l) = if n = l ∧ env.used n = true then 1 else 0 := by
  unfold CEnv.lbl
  split <;> simp_all [List.count_cons]

theorem count_filterMap_instr {β : Type} [BEq β] [LawfulBEq β] (f : Instr → Option β) (i : Instr)
    (x : β) (h : ∀ j, f j = some x ↔ j = i) (c : Code) : (c.filterMap f).count x = c.count i := by
  rw [List.count_filterMap, List.count_eq_countP]
  congr
  funext j
  rw [Bool.eq_iff_iff, beq_iff_eq, beq_iff_eq]
  exact h j

theorem count_labelsOf (l : Nat) (c : Code) : (labelsOf c).count l = c.count (.label l) :=
  count_filterMap_instr _ _ _ (fun j => by cases j <;> simp [eq_comm]) c

theorem mem_labelsOf {c : Code} {l : Nat} : l ∈ labelsOf c ↔ Instr.label l ∈ c := by
  rw [← List.count_pos_iff, count_labelsOf, List.count_pos_iff]

theorem labelPos_of_uniq {code pc l c} (hu : Uniq code) (h : CodeAt code pc (Instr.label l :: c)) :
    labelPos code l = some pc :=
  findIdx?_of_count_le_one (count_labelsOf l code ▸ List.nodup_iff_count.mp hu l) h

section Steps
variable (P : Program) (cfg : Cfg) (inp : List Sym)

/-- The run from `(pc, s, f)` passes through `(pc', s', f')`: whatever a run from there returns, the
    run from here returns. -/
def Steps (code : Code) (pc : Nat) (s : St) (f : Frame) (pc' : Nat) (s' : St) (f' : Frame) : Prop :=
  ∀ r, Exec P cfg inp code pc' s' f' r → Exec P cfg inp code pc s f r

variable {P cfg inp}

theorem Steps.refl {code pc s f} : Steps P cfg inp code pc s f pc s f := fun _ h => h

theorem Steps.trans {code pc s f pc1 s1 f1 pc2 s2 f2}
    (h1 : Steps P cfg inp code pc s f pc1 s1 f1) (h2 : Steps P cfg inp code pc1 s1 f1 pc2 s2 f2) :
    Steps P cfg inp code pc s f pc2 s2 f2 := fun r h => h1 r (h2 r h)

theorem Steps.next {code pc s f i s' f'} (hi : code[pc]? = some i)
    (hs : stepLocal cfg inp i s f = .next s' f') : Steps P cfg inp code pc s f (pc + 1) s' f' :=
  fun _ h => Exec.next hi hs h

theorem Steps.jump {code pc s f i l s' f' pc'} (hi : code[pc]? = some i)
    (hs : stepLocal cfg inp i s f = .jump l s' f') (hl : labelPos code l = some pc') :
    Steps P cfg inp code pc s f pc' s' f' :=
  fun _ h => Exec.jump hi hs hl h

theorem Steps.sjump {code pc s f i sw k s' f' pc'} (hi : code[pc]? = some i)
    (hs : stepLocal cfg inp i s f = .sjump sw k s' f') (hl : slabelPos code sw k = some pc') :
    Steps P cfg inp code pc s f pc' s' f' :=
  fun _ h => Exec.sjump hi hs hl h

theorem Steps.sexit {code pc s f i sw s' f' pc'} (hi : code[pc]? = some i)
    (hs : stepLocal cfg inp i s f = .sexit sw s' f') (hl : sendPos code sw = some pc') :
    Steps P cfg inp code pc s f pc' s' f' :=
  fun _ h => Exec.sexit hi hs hl h

theorem Steps.cast {code pc s f a b s' f'} (h : Steps P cfg inp code pc s f a s' f') (e : a = b) :
    Steps P cfg inp code pc s f b s' f' := e ▸ h

end Steps

end PegVerif
