import PegVerif.Proofs.CodeLemmas
import PegVerif.Proofs.CompileLemmas
/-
  Every jump target of an emitted rule function is defined once — the labels and the synthetic
  labels `slabel sw i` / `send sw` of a flattened `switch` — so the machine's lookups find the
  intended instruction.  `compile` numbers both kinds from the counters of `CSt`: what a node
  defines carries a number the node drew itself, and its operands draw from where it stopped.
-/
namespace PegVerif

/-- The synthetic labels of flattened switches defined in `c`: `(sw, i)` of each `slabel`; in
    `sendsOf`, `sw` of each `send`. -/
def slabelsOf (c : Code) : List (Nat × Nat) :=
  c.filterMap (fun i => match i with | .slabel sw k => some (sw, k) | _ => none)

def sendsOf (c : Code) : List Nat :=
  c.filterMap (fun i => match i with | .send sw => some sw | _ => none)

/-- Every case label and every switch end is defined at most once, so that `slabelPos` and `sendPos`
    find the intended one.  The refinement theorem asks it only where `-switch` nodes may occur
    (`PreG.suniq : ua = true → SUniq code`). -/
def SUniq (code : Code) : Prop := (slabelsOf code).Nodup ∧ (sendsOf code).Nodup

theorem count_slabelsOf (sw k : Nat) (c : Code) :
    (slabelsOf c).count (sw, k) = c.count (.slabel sw k) :=
  count_filterMap_instr _ _ _ (fun j => by cases j <;> simp [eq_comm]) c

theorem count_sendsOf (sw : Nat) (c : Code) : (sendsOf c).count sw = c.count (.send sw) :=
  count_filterMap_instr _ _ _ (fun j => by cases j <;> simp [eq_comm]) c

theorem slabelPos_of_suniq {code pc sw k c} (hu : SUniq code)
    (h : CodeAt code pc (Instr.slabel sw k :: c)) : slabelPos code sw k = some pc :=
  findIdx?_of_count_le_one (count_slabelsOf sw k code ▸ List.nodup_iff_count.mp hu.1 (sw, k)) h

theorem sendPos_of_suniq {code pc sw c} (hu : SUniq code)
    (h : CodeAt code pc (Instr.send sw :: c)) : sendPos code sw = some pc :=
  findIdx?_of_count_le_one (count_sendsOf sw code ▸ List.nodup_iff_count.mp hu.2 sw) h

/-! ### Labels -/

def labCnt (l : Nat) (c : Code) : Nat := (labelsOf c).count l

theorem labCnt_nil (l : Nat) : labCnt l [] = 0 := rfl

theorem labCnt_eq_count (l : Nat) (c : Code) : labCnt l c = c.count (.label l) :=
  count_labelsOf l c

/-- The invariant of `compile_labels_all`, for a fragment compiled while the label counter went from
    `lo` to `hi`: every label is defined at most once, and only with a number in `[lo, hi)`. -/
def LabIn (c : Code) (lo hi : Nat) : Prop :=
  ∀ l, labCnt l c ≤ 1 ∧ (labCnt l c ≠ 0 → lo ≤ l ∧ l < hi)

/-- `LabIn` at one label.  With the counters after each fragment written out (`compile_st`), every
    fragment's labels lie in its own block of numbers, the blocks of consecutive fragments are
    adjacent (`e+` compiles its body twice, the second copy from the counters the first one left:
    the two copies' labels fall into consecutive, disjoint blocks), and the labels a node prints
    itself are the one or two numbers it takes before compiling its operands. -/
theorem compile_labels_all (env : CEnv) (l : Nat) :
    (∀ e ko pd pmk st, labCnt l (compile env e ko pd pmk st).code ≤ 1 ∧
      (labCnt l (compile env e ko pd pmk st).code ≠ 0 →
        st.label ≤ l ∧ l < (compile env e ko pd pmk st).st.label)) ∧
    (∀ es ko pd pmk st, labCnt l (compileSeq env es ko pd pmk st).code ≤ 1 ∧
      (labCnt l (compileSeq env es ko pd pmk st).code ≠ 0 →
        st.label ≤ l ∧ l < (compileSeq env es ko pd pmk st).st.label)) ∧
    (∀ ks es sw i done st, labCnt l (compileCases env ks es sw i done st).code ≤ 1 ∧
      (labCnt l (compileCases env ks es sw i done st).code ≠ 0 →
        st.label ≤ l ∧ l < (compileCases env ks es sw i done st).st.label)) ∧
    (∀ es ok ko pd pmk st, labCnt l (compileAlt env es ok ko pd pmk st).code ≤ 1 ∧
      (labCnt l (compileAlt env es ok ko pd pmk st).code ≠ 0 →
        st.label ≤ l ∧ l < (compileAlt env es ok ko pd pmk st).st.label)) := by
  apply compile.mutual_induct env
  all_goals intros
  -- `← List.length_eq_zero_iff, imp_false`: as in `compile_st_all`, for the `es.length - 1` of `compileAlt_st`
  all_goals simp +zetaDelta only [compile_st, compileSeq_st, compileCases_st, compileAlt_st, CSt.add,
    labCnt_eq_count, compile, compileSeq, compileAlt, compileCases, count_label_lbl,
    List.count_append, List.count_cons, List.count_nil, count_ite, beq_iff_eq, reduceCtorEq,
    if_false, Nat.add_zero, Nat.zero_add, ite_self, ← List.length_eq_zero_iff, imp_false] at *
  all_goals repeat' split
  all_goals omega

theorem compile_labels (env : CEnv) (e : Expr) (ko : Nat) (pd pmk : Bool) (st : CSt) :
    LabIn (compile env e ko pd pmk st).code st.label (compile env e ko pd pmk st).st.label :=
  fun l => (compile_labels_all env l).1 e ko pd pmk st

theorem compileSeq_labels (env : CEnv) : ∀ (es : List Expr) (ko : Nat) (pd pmk : Bool) (st : CSt),
    LabIn (compileSeq env es ko pd pmk st).code st.label (compileSeq env es ko pd pmk st).st.label :=
  fun es ko pd pmk st l => (compile_labels_all env l).2.1 es ko pd pmk st

theorem compileAlt_labels (env : CEnv) : ∀ (es : List Expr) (ok ko : Nat) (pd pmk : Bool) (st : CSt),
    LabIn (compileAlt env es ok ko pd pmk st).code st.label (compileAlt env es ok ko pd pmk st).st.label :=
  fun es ok ko pd pmk st l => (compile_labels_all env l).2.2.2 es ok ko pd pmk st

theorem compileCases_labels (env : CEnv) :
    ∀ (ks : List KeySet) (es : List Expr) (sw i done : Nat) (st : CSt),
    LabIn (compileCases env ks es sw i done st).code st.label (compileCases env ks es sw i done st).st.label :=
  fun ks es sw i done st l => (compile_labels_all env l).2.2.1 ks es sw i done st

theorem LabIn.mem {c : Code} {lo hi l : Nat} (h : LabIn c lo hi) (hl : l ∈ labelsOf c) :
    lo ≤ l ∧ l < hi :=
  (h l).2 (by unfold labCnt; exact Nat.ne_of_gt (List.count_pos_iff.mpr hl))

theorem LabIn.nodup {c : Code} {lo hi : Nat} (h : LabIn c lo hi) : (labelsOf c).Nodup :=
  List.nodup_iff_count.mpr fun l => (h l).1

theorem compile_labels_range (env : CEnv) (e : Expr) (ko : Nat) (pd pmk : Bool) (st : CSt) :
    (∀ l ∈ labelsOf (compile env e ko pd pmk st).code,
        st.label ≤ l ∧ l < (compile env e ko pd pmk st).st.label) ∧
      (labelsOf (compile env e ko pd pmk st).code).Nodup :=
  ⟨fun _ hl => (compile_labels env e ko pd pmk st).mem hl, (compile_labels env e ko pd pmk st).nodup⟩

/-- The frame `ruleFunc` puts around the code of the body only defines `ko`, which is below the
    body's labels. -/
theorem ruleFunc_uniq (env : CEnv) (r : Rule) (b : Expr) (ko : Nat) (st : CSt) (h : ko < st.label) :
    Uniq (ruleFunc env r b ko st).1 := by
  refine List.nodup_iff_count.mpr fun l => ?_
  have h1 := compile_labels env b ko false false st l
  rw [labCnt_eq_count] at h1
  simp only [count_labelsOf, ruleFunc, List.count_append, List.count_cons, List.count_nil,
    count_ite, beq_iff_eq, Instr.label.injEq, reduceCtorEq, if_false, Nat.add_zero, Nat.zero_add,
    ite_self]
  repeat' split
  all_goals omega

/-! ### Case labels and switch ends -/

def slCnt (a b : Nat) (c : Code) : Nat := (slabelsOf c).count (a, b)

def seCnt (a : Nat) (c : Code) : Nat := (sendsOf c).count a

theorem slCnt_nil (a b : Nat) : slCnt a b [] = 0 := rfl
theorem seCnt_nil (a : Nat) : seCnt a [] = 0 := rfl

theorem slCnt_eq_count (a b : Nat) (c : Code) : slCnt a b c = c.count (.slabel a b) :=
  count_slabelsOf a b c

theorem seCnt_eq_count (a : Nat) (c : Code) : seCnt a c = c.count (.send a) := count_sendsOf a c

/-- The invariant of `compile_sw_all` at one case label `(a, b)` and switch end `a`, for a fragment
    compiled while the switch counter went from `lo` to `hi`: the counter only grows, and each of the
    two is defined at most once, and only if `a` is in `[lo, hi)`. -/
def SwOK (c : Code) (lo hi a b : Nat) : Prop :=
  lo ≤ hi ∧ slCnt a b c ≤ 1 ∧ (slCnt a b c ≠ 0 → lo ≤ a ∧ a < hi) ∧
    seCnt a c ≤ 1 ∧ (seCnt a c ≠ 0 → lo ≤ a ∧ a < hi)

theorem SwOK.slabel_le_one {c lo hi a b} (h : SwOK c lo hi a b) : c.count (.slabel a b) ≤ 1 :=
  slCnt_eq_count a b c ▸ h.2.1

theorem SwOK.send_le_one {c lo hi a b} (h : SwOK c lo hi a b) : c.count (.send a) ≤ 1 :=
  seCnt_eq_count a c ▸ h.2.2.2.1

/-- `SwOK` for the case list of switch `sw` (numbered before `lo`) from case index `i` on: its own
    case labels are `(sw, j)` with `i ≤ j`; `send sw` is not part of the list. -/
def CasesOK (c : Code) (sw i lo hi a b : Nat) : Prop :=
  lo ≤ hi ∧ slCnt a b c ≤ 1 ∧ (slCnt a b c ≠ 0 → (a = sw ∧ i ≤ b) ∨ (lo ≤ a ∧ a < hi)) ∧
    seCnt a c ≤ 1 ∧ (seCnt a c ≠ 0 → lo ≤ a ∧ a < hi)

theorem compile_sw_all (env : CEnv) (a b : Nat) :
    (∀ e ko pd pmk st,
      SwOK (compile env e ko pd pmk st).code st.sw (compile env e ko pd pmk st).st.sw a b) ∧
    (∀ es ko pd pmk st,
      SwOK (compileSeq env es ko pd pmk st).code st.sw (compileSeq env es ko pd pmk st).st.sw a b) ∧
    (∀ ks es sw i done st, sw < st.sw →
      CasesOK (compileCases env ks es sw i done st).code sw i st.sw
        (compileCases env ks es sw i done st).st.sw a b) ∧
    (∀ es ok ko pd pmk st,
      SwOK (compileAlt env es ok ko pd pmk st).code st.sw (compileAlt env es ok ko pd pmk st).st.sw a b) := by
  -- `mutual_induct` takes the motives, and numbers the cases, in the order compile (1–22),
  -- compileSeq (23–25), compileCases (26–28), compileAlt (29–31) — not the order of the
  -- definitions; three cases are done by hand
  apply compile.mutual_induct env
  -- case16 = the `ualt` clause of `compile`: it takes the number `st.sw` and compiles its cases from
  -- `st.sw + 1` on, so `send st.sw` and the case labels `(st.sw, _)` cannot recur inside them.
  case case16 =>
    intro pd pmk ks es ko st _ _ ih
    have h := ih (Nat.lt_succ_self st.sw)
    simp +zetaDelta only [SwOK, CasesOK, slCnt_eq_count, seCnt_eq_count, compile, CEnv.lbl,
      List.count_append, List.count_cons, List.count_nil, count_ite, beq_iff_eq, Instr.send.injEq,
      reduceCtorEq, if_false, Nat.add_zero, Nat.zero_add, ite_self] at h ⊢
    split <;> omega
  -- case28 = the third clause of `compileCases` (`e :: es`, `es ≠ []`): a case of switch `sw` defines
  -- `(sw, i)` and hands `i + 1` on; the body and the later cases use switch numbers from
  -- `st.sw > sw` on, so `(sw, i)` occurs once.  `ih1.1` is the first conjunct of `SwOK`, `lo ≤ hi`.
  case case28 =>
    intro ks e es sw i done st _ _ _ ih1 ih2 hsw
    have h2 := ih2 (Nat.lt_of_lt_of_le hsw ih1.1)
    simp +zetaDelta only [SwOK, CasesOK, slCnt_eq_count, seCnt_eq_count, compileCases,
      List.count_append, List.count_cons, List.count_nil, count_ite, beq_iff_eq, Instr.slabel.injEq,
      reduceCtorEq, if_false, Nat.add_zero, Nat.zero_add, ite_self] at ih1 h2 ⊢
    split <;> omega
  -- case27 = the second clause of `compileCases` (`[e]`, the `default:`): no later cases.
  case case27 =>
    intro ks e sw i done st ih hsw
    simp only [SwOK, CasesOK, slCnt_eq_count, seCnt_eq_count, compileCases,
      List.count_append, List.count_cons, List.count_nil, count_ite, beq_iff_eq, Instr.slabel.injEq,
      reduceCtorEq, if_false, Nat.add_zero, Nat.zero_add, ite_self] at ih ⊢
    split <;> omega
  all_goals intros
  all_goals simp +zetaDelta only [SwOK, CasesOK, slCnt_eq_count, seCnt_eq_count, compile, compileSeq,
    compileAlt, compileCases, CEnv.lbl, List.count_append, List.count_cons, List.count_nil,
    count_ite, beq_iff_eq, reduceCtorEq, if_false, Nat.add_zero, Nat.zero_add, ite_self] at *
  all_goals omega

theorem compile_sw (env : CEnv) : ∀ (e : Expr) (ko : Nat) (pd pmk : Bool) (st : CSt) (a b : Nat),
    SwOK (compile env e ko pd pmk st).code st.sw (compile env e ko pd pmk st).st.sw a b :=
  fun e ko pd pmk st a b => (compile_sw_all env a b).1 e ko pd pmk st

theorem compileSeq_sw (env : CEnv) : ∀ (es : List Expr) (ko : Nat) (pd pmk : Bool) (st : CSt) (a b : Nat),
    SwOK (compileSeq env es ko pd pmk st).code st.sw (compileSeq env es ko pd pmk st).st.sw a b :=
  fun es ko pd pmk st a b => (compile_sw_all env a b).2.1 es ko pd pmk st

theorem compileAlt_sw (env : CEnv) : ∀ (es : List Expr) (ok ko : Nat) (pd pmk : Bool) (st : CSt) (a b : Nat),
    SwOK (compileAlt env es ok ko pd pmk st).code st.sw (compileAlt env es ok ko pd pmk st).st.sw a b :=
  fun es ok ko pd pmk st a b => (compile_sw_all env a b).2.2.2 es ok ko pd pmk st

theorem compileCases_sw (env : CEnv) :
    ∀ (ks : List KeySet) (es : List Expr) (sw i done : Nat) (st : CSt) (a b : Nat), sw < st.sw →
    CasesOK (compileCases env ks es sw i done st).code sw i st.sw
      (compileCases env ks es sw i done st).st.sw a b :=
  fun ks es sw i done st a b => (compile_sw_all env a b).2.2.1 ks es sw i done st

/-- The frame `ruleFunc` puts around the code of the body contains neither a case label nor a
    switch end. -/
theorem ruleFunc_suniq (env : CEnv) (r : Rule) (e : Expr) (ko : Nat) (st : CSt) :
    SUniq (ruleFunc env r e ko st).1 := by
  refine ⟨List.nodup_iff_count.mpr fun k => ?_, List.nodup_iff_count.mpr fun a => ?_⟩
  · obtain ⟨a, b⟩ := k
    have h := (compile_sw env e ko false false st a b).slabel_le_one
    simp only [count_slabelsOf, ruleFunc, List.count_append, List.count_cons, List.count_nil,
      count_ite, beq_iff_eq, reduceCtorEq, if_false, Nat.add_zero, Nat.zero_add, ite_self]
    exact h
  · have h := (compile_sw env e ko false false st a 0).send_le_one
    simp only [count_sendsOf, ruleFunc, List.count_append, List.count_cons, List.count_nil,
      count_ite, beq_iff_eq, reduceCtorEq, if_false, Nat.add_zero, Nat.zero_add, ite_self]
    exact h

end PegVerif
