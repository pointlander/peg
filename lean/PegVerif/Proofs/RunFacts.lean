import PegVerif.Proofs.RefineTop
import PegVerif.Proofs.RefineNoast
/-
  What a run of an emitted rule function shows — verdict, end position, published tokens, error
  token — is a function of the outcome `(res, evs)` that the PEG semantics assigns.  `RuleSpec` and
  `RuleSpecN` say so by cases on `res`; here the cases are folded into three projections of `Res`
  and what a run shows is a record without case split (`Verdict` in either mode, `Shows` for a parse
  of the AST parser), so that two runs are compared by transitivity (`Verdict.agree`, `Shows.agree`,
  `runs_agree`) instead of unpacking both specifications.  Also here: the executable `parseF` obeys
  the theorem (`R_parseF`), and what a `-noast` run leaves in trace and `text` (`StEffN.actions`).

  Throughout, `evs` are the EVENTS of the derivation: the tokens of every COMPLETED token-producing
  node, in completion order, including those inside alternatives or lookaheads that fail later; a
  node whose own attempt fails half-way contributes no token of its own.
-/
namespace PegVerif

variable {P : Program} {cfg : Cfg} {env : CEnv} {G : Grammar} {inp : List Sym}

theorem Verdict.ne_panic {res p o s'} (h : Verdict res p o s') : o ≠ .panic := by
  rw [h.out]
  intro e
  cases e

/-- Two runs of rules to which the semantics assigns the same result at the same position cannot be
    told apart by verdict and end — whatever the programs, the modes and the start states. -/
theorem Verdict.agree {res p o1 t1 o2 t2} (a : Verdict res p o1 t1) (b : Verdict res p o2 t2) :
    o1 = o2 ∧ t1.pos = t2.pos :=
  ⟨a.out.trans b.out.symm, a.pos.trans b.pos.symm⟩

/-- By cases on the outcome, in the conjunct order of the `…_verdict` theorems.  (`Verdict.spec`,
    `Verdict.fresh` and `Shows.parse` say the same in the three forms in which the property theorems
    state it.) -/
theorem Verdict.spec {res p o s'} (h : Verdict res p o s') :
    o ≠ .panic ∧ (o = .ret true ↔ ∃ p' f, res = .ok p' f) ∧ (o = .ret false ↔ res = .fail) ∧
    (∀ p' f, res = .ok p' f → s'.pos = p') ∧ (res = .fail → s'.pos = p) := by
  refine ⟨h.ne_panic, ?_⟩
  obtain ⟨rfl, hp⟩ := h
  cases res with
  | ok p' f => exact ⟨by simp [Res.okB], by simp [Res.okB], fun _ _ e => by cases e; exact hp, by simp⟩
  | fail => exact ⟨by simp [Res.okB], by simp [Res.okB], by simp, fun _ => hp⟩

/-- … and in the order of the `…_generated_parser` theorems. -/
theorem Verdict.fresh {res p o s'} (h : Verdict res p o s') :
    (o = .ret true ↔ ∃ p' f, res = .ok p' f) ∧ (∀ p' f, res = .ok p' f → s'.pos = p') ∧
    (o = .ret false ↔ res = .fail) ∧ o ≠ .panic :=
  let ⟨hnp, ht, hf, hpos, _⟩ := h.spec
  ⟨ht, hpos, hf, hnp⟩

/-! ### `RuleSpec` and `RuleSpecN` by name (`RuleSpec.obs`, `ruleSpecN_iff`: both are `RuleG`) -/

theorem RuleSpec.verdict {ρ s p res evs o s'} (h : RuleSpec P G ρ inp s p res evs o s') :
    Verdict res p o s' :=
  h.obs.toVerdict

theorem RuleSpecN.verdict {K : NKit} {s p res evs o s'} (h : RuleSpecN K inp s p res evs o s') :
    Verdict res p o s' :=
  (ruleSpecN_iff.mp h).toVerdict

theorem RuleSpecN.eff {K : NKit} {s p res evs o s'} (h : RuleSpecN K inp s p res evs o s') :
    StEffN K inp s s' evs :=
  (ruleSpecN_iff.mp h).ok

/-! ### A parse from a reset parser -/

/-- The state of a long-lived parser after `Reset()`: whatever earlier parses left in the token
    buffer, everything else is as in a fresh parser. -/
def AfterReset (s : St) : Prop :=
  s.pos = 0 ∧ s.ti = 0 ∧ s.maxTok = zeroTok ∧ s.memo = []

theorem AfterReset.pos {s : St} (h : AfterReset s) : s.pos = 0 := h.1
theorem AfterReset.ti {s : St} (h : AfterReset s) : s.ti = 0 := h.2.1
theorem AfterReset.maxTok {s : St} (h : AfterReset s) : s.maxTok = zeroTok := h.2.2.1
theorem AfterReset.memo {s : St} (h : AfterReset s) : s.memo = [] := h.2.2.2

theorem afterReset_reset (s : St) : AfterReset s.reset := by simp [AfterReset, St.reset]
theorem afterReset_init : AfterReset St.init := by simp [AfterReset, St.init]

/-- What a parse of the AST parser from a reset state shows of the outcome `(res, evs)` of its entry
    rule: besides the verdict, `tokenIndex`, `Tokens()` (the live prefix) and the error token. -/
structure Shows (res : Res) (evs : List Token) (o : Outcome) (s' : St) : Prop
    extends Verdict res 0 o s' where
  ti : s'.ti = res.toks.length
  toks : s'.tree.take s'.ti = res.toks
  maxTok : s'.maxTok = evs.foldl updTok zeroTok

/-- From a reset parser, verdict, end position, `Tokens()` and error token of ANY run are
    functions of the semantic outcome `(res, evs)` — of nothing else. -/
theorem R_afterReset (hW : World P cfg env G inp) {n cr res evs s o s'}
    (hs : AfterReset s) (hfind : P.find n = some cr)
    (hev : Eval G cfg.rho inp (.name n) 0 res evs)
    (hrun : Exec P cfg inp cr 0 s Frame.empty (o, s')) : Shows res evs o s' := by
  have h := (R_rule_all hW hfind hev hs.pos (Nat.zero_le _) (by rw [hs.ti]; exact Nat.zero_le _)
    (by rw [hs.memo]; exact memoOK_nil) hrun).obs
  exact ⟨h.toVerdict, by simpa [hs.ti] using h.ok.ti, by simpa [hs.ti] using h.ok.live,
    hs.maxTok ▸ h.ok.maxTok⟩

theorem Shows.agree {res evs1 evs2 o1 t1 o2 t2} (a : Shows res evs1 o1 t1) (b : Shows res evs2 o2 t2) :
    o1 = o2 ∧ t1.pos = t2.pos ∧ t1.ti = t2.ti ∧ t1.tree.take t1.ti = t2.tree.take t2.ti :=
  ⟨a.out.trans b.out.symm, a.pos.trans b.pos.symm, a.ti.trans b.ti.symm, a.toks.trans b.toks.symm⟩

/-- By cases on the outcome, in the form of the `…_parser` theorems. -/
theorem Shows.parse {res evs o s'} (h : Shows res evs o s') :
    o ≠ .panic ∧
      match (generalizing := false) res with
      | .ok p' forest => o = .ret true ∧ s'.pos = p' ∧ s'.tree.take s'.ti = postorderL forest
      | .fail => o = .ret false ∧ s'.pos = 0 := by
  refine ⟨h.ne_panic, ?_⟩
  cases res with
  | ok p' f => exact ⟨h.out, h.pos, h.toks⟩
  | fail => exact ⟨h.out, h.pos⟩

/-! ### The executable `parseF` -/

/-- The same for the executable `parseF` on a fresh parser: verdict, published tokens
    (`Tokens()` after `Trim`) and error token are those of the semantics. -/
theorem R_parseF (hW : World P cfg env G inp) {n cr res evs fuel pr st}
    (hfind : P.find n = some cr) (hev : Eval G cfg.rho inp (.name n) 0 res evs)
    (hrun : parseF P cfg inp fuel n St.init = (pr, st)) (hfuel : pr ≠ .stuck) :
    match res with
    | .ok p' forest => pr = .ok (postorderL forest) ∧ st.pos = p'
    | .fail => pr = .fail (evs.foldl updTok zeroTok) := by
  simp only [parseF, hfind] at hrun
  cases hx : execF P cfg inp fuel cr 0 St.init Frame.empty with
  | none => simp only [hx] at hrun; cases hrun; exact absurd rfl hfuel
  | some r =>
    obtain ⟨o, s'⟩ := r
    have h := R_afterReset hW afterReset_init hfind hev (execF_sound _ _ _ _ _ _ hx)
    obtain rfl := h.out
    cases res with
    | ok p' f =>
      simp only [hx, Res.okB] at hrun
      cases hrun
      exact ⟨by rw [h.toks]; rfl, h.pos⟩
    | fail =>
      simp only [hx, Res.okB] at hrun
      cases hrun
      rw [h.maxTok]

/-! ### Two runs agree -/

/-- Hence two runs whose semantics assign the same outcome cannot be told apart, whatever the
    emitted programs, the grammars they were emitted for (`-inline` expands the grammar), the
    memoisation switch and the history of the two parsers. -/
theorem runs_agree {G1 G2 : Grammar} {P1 P2 : Program} {cfg1 cfg2 : Cfg} {env1 env2 : CEnv}
    (w1 : World P1 cfg1 env1 G1 inp) (w2 : World P2 cfg2 env2 G2 inp)
    {n1 n2 c1 c2 res evs s1 s2 o1 o2 t1 t2} (a1 : AfterReset s1) (a2 : AfterReset s2)
    (f1 : P1.find n1 = some c1) (f2 : P2.find n2 = some c2)
    (e1 : Eval G1 cfg1.rho inp (.name n1) 0 res evs) (e2 : Eval G2 cfg2.rho inp (.name n2) 0 res evs)
    (r1 : Exec P1 cfg1 inp c1 0 s1 Frame.empty (o1, t1))
    (r2 : Exec P2 cfg2 inp c2 0 s2 Frame.empty (o2, t2)) :
    o1 = o2 ∧ t1.pos = t2.pos ∧ t1.ti = t2.ti ∧ t1.tree.take t1.ti = t2.tree.take t2.ti ∧
    t1.maxTok = t2.maxTok :=
  let a := R_afterReset w1 a1 f1 e1 r1
  let b := R_afterReset w2 a2 f2 e2 r2
  let ⟨ho, hp, hti, htoks⟩ := a.agree b
  ⟨ho, hp, hti, htoks, a.maxTok.trans b.maxTok.symm⟩

/-! ### What a `-noast` run leaves in trace and `text` -/

/-- `StEffN` with the fold from the current trace written as `reachTrace` from the empty one. -/
theorem StEffN.actions {K : NKit} {s s' : St} {evs : List Token} (hE : StEffN K inp s s' evs) :
    s'.trace.filter (fun x => K.keep x.1) =
      s.trace.filter (fun x => K.keep x.1) ++ (Noast.reachTrace K.codeOf inp evs s.text).1 ∧
    s'.text = (Noast.reachTrace K.codeOf inp evs s.text).2 ∧
    s'.tree = s.tree ∧ s'.memo = s.memo ∧ s'.maxTok = (noCap evs).foldl updTok s.maxTok := by
  have hobs := hE.obs
  rw [obsN, obsN, Noast.foldl_inlineStep] at hobs
  exact ⟨congrArg Prod.fst hobs, congrArg Prod.snd hobs, hE.tree, hE.memo, hE.maxTok⟩

theorem filter_keep_Kall (G : Grammar) (l : List (String × List Sym)) :
    l.filter (fun x => (Kall G).keep x.1) = l := by
  induction l <;> simp_all [Kall]

/-- … so for grammars without state-change statements `!{…}` (`Kall`: the fragment predicate
    `okN (Kall G)` forbids them) `StEffN.actions` speaks of the whole trace. -/
theorem StEffN.actions_Kall {s s' : St} {evs : List Token} (hE : StEffN (Kall G) inp s s' evs) :
    s'.trace = s.trace ++ (Noast.reachTrace (actionCodeOf G) inp evs s.text).1 ∧
    s'.text = (Noast.reachTrace (actionCodeOf G) inp evs s.text).2 ∧
    s'.tree = s.tree ∧ s'.memo = s.memo ∧ s'.maxTok = (noCap evs).foldl updTok s.maxTok := by
  have h := hE.actions
  rwa [filter_keep_Kall, filter_keep_Kall] at h

/-- A run from a fresh parser, in the form of the `…_generated_parser` theorems: verdict and end
    position, and the whole trace and `text` as `reachTrace` prescribes from the empty text. -/
theorem RuleSpecN.fresh {res : Res} {evs : List Token} {out : Outcome} {s' : St}
    (h : RuleSpecN (Kall G) inp St.init 0 res evs out s') :
    (out = .ret true ↔ ∃ p' f, res = .ok p' f) ∧ (∀ p' f, res = .ok p' f → s'.pos = p') ∧
    (out = .ret false ↔ res = .fail) ∧ out ≠ .panic ∧
    s'.trace = (Noast.reachTrace (actionCodeOf G) inp evs []).1 ∧
    s'.text = (Noast.reachTrace (actionCodeOf G) inp evs []).2 := by
  obtain ⟨ht, hpos, hf, hnp⟩ := h.verdict.fresh
  have ha := h.eff.actions_Kall
  simp only [St.init, List.nil_append] at ha
  exact ⟨ht, hpos, hf, hnp, ha.1, ha.2.1⟩

end PegVerif
