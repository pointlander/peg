import PegVerif.Proofs.RefineMode
/-
  The mode of parsers with token buffer and memo table (`astMode`), and the statement of the
  refinement theorem at this mode spelt out: `Good` (over `Pre`, `Succ`, `Failed`) is
  `GoodG (astMode I) true` (`good_iff`).
-/
namespace PegVerif

section
variable (I : MInv)

/-- `Mode.Ok` with a token buffer: from `s` to `s'` the live prefix of the buffer (`tree.take ti`) grows by
    exactly `toks`, the tokens of the derivation; `maxToken` is folded over the events `evs`. -/
structure AstOk (s s' : St) (toks evs : List Token) : Prop where
  ti : s'.ti = s.ti + toks.length
  live : s'.tree.take s'.ti = s.tree.take s.ti ++ toks
  len : s'.ti ≤ s'.tree.length
  maxTok : s'.maxTok = evs.foldl updTok s.maxTok
  memo : I.ok s'.memo s'.maxTok.e

/-- `Mode.Ko` with a token buffer: whatever the failed attempt wrote, the live prefix of the entry
    state `s` is still there in `s''`. -/
structure AstKo (s s'' : St) (evs : List Token) : Prop where
  keep : s''.tree.take s.ti = s.tree.take s.ti
  len : s.ti ≤ s''.tree.length
  maxTok : s''.maxTok = evs.foldl updTok s.maxTok
  memo : I.ok s''.memo s''.maxTok.e

variable {I}

theorem AstOk.drop {s s1 t e} (hlen : s.ti ≤ s.tree.length) (h : AstOk I s s1 t e) : AstKo I s s1 e := by
  have hle : s.ti ≤ s1.ti := by rw [h.ti]; omega
  refine ⟨?_, Nat.le_trans hle h.len, h.maxTok, h.memo⟩
  have := congrArg (List.take s.ti) h.live
  rw [List.take_take, Nat.min_eq_left hle] at this
  rw [this, List.take_append_of_le_length (by simp [hlen]), List.take_take]; simp

theorem AstOk.then_ko {s s1 s2 t1 e1 e2} (hlen : s.ti ≤ s.tree.length) (h1 : AstOk I s s1 t1 e1)
    (h2 : AstKo I s1 s2 e2) : AstKo I s s2 (e1 ++ e2) := by
  have hle : s.ti ≤ s1.ti := by rw [h1.ti]; omega
  refine ⟨?_, Nat.le_trans hle h2.len, by rw [h2.maxTok, h1.maxTok]; simp, h2.memo⟩
  have := congrArg (List.take s.ti) h2.keep
  simp only [List.take_take, Nat.min_eq_left hle] at this
  rw [this, (h1.drop hlen).keep]

variable (I) in
-- reducible, so that `⟨…⟩` and `succ_iff` / `failed_iff` see through `M.Ok`, `M.Ko`
@[reducible] def astMode : Mode where
  Inv s := s.ti ≤ s.tree.length ∧ I.ok s.memo s.maxTok.e
  Ok := AstOk I
  Ko := AstKo I
  Saved v s := v = (s.pos, s.ti)
  saved_mk _ := rfl
  saved_pos h := by rw [h]
  saved_self _ _ := rfl
  ok_move _ h := ⟨by simp, by simp, h.1, by simp, h.2⟩
  ko_refl h := ⟨rfl, h.1, by simp, h.2⟩
  ok_inv h := ⟨h.len, h.memo⟩
  ok_trans h1 h2 := ⟨by rw [h2.ti, h1.ti]; simp; omega, by rw [h2.live, h1.live]; simp, h2.len,
    by rw [h2.maxTok, h1.maxTok]; simp, h2.memo⟩
  ok_ko hi h1 h2 := h1.then_ko hi.1 h2
  ok_drop hi h := h.drop hi.1
  ko_restore h hv := by
    subst hv
    exact ⟨by simp, by simpa using h.keep, h.len, h.maxTok, h.memo⟩

end

/-! ### The statement at this mode spelt out: `Good` is `GoodG (astMode I) true` (`good_iff`) -/

structure Pre [MInv] (env : CEnv) (inp : List Sym) (code : Code) (s : St) (p : Nat) : Prop where
  uniq : Uniq code
  suniq : SUniq code
  used : ∀ l ∈ jumps code, env.used l = true
  pos : s.pos = p
  ple : p ≤ inp.length
  len : s.ti ≤ s.tree.length
  memo : MInv.ok s.memo s.maxTok.e

/-- A successful match: the live prefix of the token buffer grows by exactly the tokens of the
    derivation, `maxToken` is folded over every ATTEMPTED token, saves of enclosing constructs are
    intact. -/
structure Succ [MInv] (lbl : Nat) (s : St) (f : Frame) (s' : St) (f' : Frame) (p' : Nat)
    (toks evs : List Token) : Prop where
  pos : s'.pos = p'
  ti : s'.ti = s.ti + toks.length
  live : s'.tree.take s'.ti = s.tree.take s.ti ++ toks
  len : s'.ti ≤ s'.tree.length
  frame : ∀ n, n < lbl → f' n = f n
  maxTok : s'.maxTok = evs.foldl updTok s.maxTok
  memo : MInv.ok s'.memo s'.maxTok.e

/-- State in which control arrives at the failure label: the live prefix of the entry state is
    untouched (position and `tokenIndex` are arbitrary — the restore happens at the label site). -/
structure Failed [MInv] (lbl : Nat) (s : St) (f : Frame) (s'' : St) (f'' : Frame) (evs : List Token) : Prop where
  keep : s''.tree.take s.ti = s.tree.take s.ti
  len : s.ti ≤ s''.tree.length
  frame : ∀ n, n < lbl → f'' n = f n
  maxTok : s''.maxTok = evs.foldl updTok s.maxTok
  memo : MInv.ok s''.memo s''.maxTok.e

section
variable [MInv] (P : Program) (cfg : Cfg) (env : CEnv) (inp : List Sym)

/-- The emitted code of `e` refines the outcome `res` of the PEG semantics at `p` — for every
    setting of the `parentDetect`/`parentMultipleKey` flags under which the elided terminal tests
    would have passed (`Lead`). -/
def Good (e : Expr) (p : Nat) (res : Res) (evs : List Token) : Prop :=
  ∀ (ko : Nat) (pd pmk : Bool) (st : CSt) (code : Code) (pc : Nat) (s : St) (f : Frame),
    CodeAt code pc (compile env e ko pd pmk st).code → Pre env inp code s p →
    Lead inp p pd pmk e →
    match res with
    | .ok p' forest => ∃ s' f', Succ st.label s f s' f' p' (postorderL forest) evs ∧
        Steps P cfg inp code pc s f (pc + (compile env e ko pd pmk st).code.length) s' f'
    | .fail => ∃ s'' f'', Failed st.label s f s'' f'' evs ∧
        ko ∈ jumps (compile env e ko pd pmk st).code ∧
        ∀ pcko, labelPos code ko = some pcko → Steps P cfg inp code pc s f pcko s'' f''

end

section
variable {I : MInv} {P : Program} {cfg : Cfg} {env : CEnv} {G : Grammar} {inp : List Sym}

theorem pre_iff {code s p} : @Pre I env inp code s p ↔ PreG (astMode I) true env inp code s p :=
  ⟨fun h => ⟨h.uniq, fun _ => h.suniq, h.used, h.pos, h.ple, h.len, h.memo⟩,
   fun h => ⟨h.uniq, h.suniq rfl, h.used, h.pos, h.ple, h.inv.1, h.inv.2⟩⟩

theorem succ_iff {lbl s f s' f' p' t e} : @Succ I lbl s f s' f' p' t e ↔ SuccG (astMode I) lbl s f s' f' p' t e :=
  ⟨fun h => ⟨h.pos, ⟨h.ti, h.live, h.len, h.maxTok, h.memo⟩, h.frame⟩,
   fun h => ⟨h.pos, h.ok.ti, h.ok.live, h.ok.len, h.frame, h.ok.maxTok, h.ok.memo⟩⟩

theorem failed_iff {lbl s f s' f' e} : @Failed I lbl s f s' f' e ↔ FailedG (astMode I) lbl s f s' f' e :=
  ⟨fun h => ⟨⟨h.keep, h.len, h.maxTok, h.memo⟩, h.frame⟩,
   fun h => ⟨h.ko.keep, h.ko.len, h.frame, h.ko.maxTok, h.ko.memo⟩⟩

theorem good_iff {e p res evs} :
    @Good I P cfg env inp e p res evs ↔ GoodG (astMode I) true P cfg env inp e p res evs := by
  cases res <;> simp only [Good, GoodG, pre_iff, succ_iff, failed_iff]

end

end PegVerif
