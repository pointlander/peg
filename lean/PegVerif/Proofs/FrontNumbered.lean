import PegVerif.Model.Builder
import PegVerif.Proofs.SyntaxLemmas
/-
  The front end on a NUMBERED grammar.

  `frontCore` finds everything by name: a rule body, the arm of `Execute()` a token belongs to, the
  code of an action, the builder method of a call.  Comparing two `String`s is by far the dearest
  thing the kernel can be asked to do, and it is asked again in every evaluation.  Here the same
  pipeline (`pipeI`) runs on a grammar whose references are rule numbers and on a table that says
  per rule number what `Execute()` does with its tokens.  Under `Numbered` (such a pair IS a given
  named grammar with its action table) an answer of `pipeI` is the answer of the named pipeline.
  The numbered form is computed from the named one, turning each name into a number once per
  evaluation.
-/
namespace PegVerif

/-- `Expr` as far as the linked grammar of peg.peg uses it, with a rule number wherever `Expr` has a
    rule name. -/
inductive IExpr where
  | dot | chr (c : Nat) | rng (lo hi : Nat) | ref (i : Nat) | act (code : String) | nil
  | seq (es : List IExpr) | alt (es : List IExpr)
  | peekFor (e : IExpr) | peekNot (e : IExpr) | query (e : IExpr) | star (e : IExpr) | plus (e : IExpr)
  | push (e : IExpr) (i : Nat) | ipush (e : IExpr) (i : Nat)

structure ITok where
  i : Nat
  b : Nat
  e : Nat

/-- What `evalF` returns, without the event list (the front end ignores it) and with the forest
    already in post-order (the front end only ever asks for `postorderL forest`). -/
inductive IRes where
  | unknown                             -- out of fuel, or no such rule number
  | fail
  | ok (p : Nat) (toks : List ITok)

def IRes.andThen (r : IRes) (k : Nat → List ITok → IRes) : IRes :=
  match r with
  | .ok p t => k p t
  | r => r

def IRes.orElse (r : IRes) (k : IRes) : IRes :=
  match r with
  | .fail => k
  | r => r

/-! One small function per construct (the corresponding clause of `evalF`) and a small dispatcher:
    the kernel copies the whole body of a function each time it unfolds it.  `ev` is the evaluator
    with one unit of fuel less. -/

def symI (inp : List Nat) (p : Nat) (f : Nat → Bool) : IRes :=
  match inp[p]? with
  | some x => if f x then .ok (p + 1) [] else .fail
  | none => .fail

def seqI (ev : IExpr → Nat → IRes) (es : List IExpr) (p : Nat) : IRes :=
  match es with
  | [] => .ok p []
  | e :: es => (ev e p).andThen fun p1 t1 => (ev (.seq es) p1).andThen fun p2 t2 => .ok p2 (t1 ++ t2)

def altI (ev : IExpr → Nat → IRes) (es : List IExpr) (p : Nat) : IRes :=
  match es with
  | [] => .unknown
  | [e] => ev e p
  | e :: es => (ev e p).orElse (ev (.alt es) p)

/-- `e*` after the first attempt `first` at `e`; `zero` is the result when that attempt fails
    (a match of nothing for `star`, no match for `plus`). -/
def repI (ev : IExpr → Nat → IRes) (e : IExpr) (first zero : IRes) : IRes :=
  match first with
  | .ok p1 t1 =>
    (match ev (.star e) p1 with
     | .ok p2 t2 => .ok p2 (t1 ++ t2)
     | _ => .unknown)
  | .fail => zero
  | .unknown => .unknown

/-- `<e>` and the wrapper of a rule body: the token of rule `i` after the tokens of `e`. -/
def tokI (ev : IExpr → Nat → IRes) (e : IExpr) (i p : Nat) : IRes :=
  match e with
  | .act _ => .ok p [⟨i, p, p⟩]
  | e => (ev e p).andThen fun p1 t1 => .ok p1 (t1 ++ [⟨i, p, p1⟩])

def peekI (r : IRes) (p : Nat) (neg : Bool) : IRes :=
  match r with
  | .ok _ _ => if neg then .fail else .ok p []
  | .fail => if neg then .ok p [] else .fail
  | .unknown => .unknown

def stepI (B : List IExpr) (inp : List Nat) (ev : IExpr → Nat → IRes) (e : IExpr) (p : Nat) : IRes :=
  match e with
  | .dot => symI inp p fun _ => true
  | .chr c => symI inp p (Nat.beq c)
  | .rng lo hi => symI inp p fun x => Nat.ble lo x && Nat.ble x hi
  | .ref i =>
    match B[i]? with
    | some b => ev b p
    | none => .unknown
  | .act _ => .ok p []
  | .nil => .ok p []
  | .seq es => seqI ev es p
  | .alt es => altI ev es p
  | .peekFor e => peekI (ev e p) p false
  | .peekNot e => peekI (ev e p) p true
  | .query e => (ev e p).orElse (.ok p [])
  | .star e => repI ev e (ev e p) (.ok p [])
  | .plus e => repI ev e (ev e p) .fail
  | .push e i => tokI ev e i p
  | .ipush e i => tokI ev e i p

/-- `evalF` on the grammar whose rule `i` has body `B[i]`, with the same use of fuel. -/
def evalI (B : List IExpr) (inp : List Nat) : Nat → IExpr → Nat → IRes
  | 0 => fun _ _ => .unknown
  | fuel + 1 => stepI B inp (evalI B inp fuel)

/-! ### back to names -/

def nm (names : List String) (i : Nat) : String := names.getD i ""

mutual
  def IExpr.toExpr (names : List String) : IExpr → Expr
    | .dot => .dot
    | .chr c => .chr c
    | .rng lo hi => .rng lo hi
    | .ref i => .name (nm names i)
    | .act c => .act c
    | .nil => .nil
    | .seq es => .seq (IExpr.toExprL names es)
    | .alt es => .alt (IExpr.toExprL names es)
    | .peekFor e => .peekFor (e.toExpr names)
    | .peekNot e => .peekNot (e.toExpr names)
    | .query e => .query (e.toExpr names)
    | .star e => .star (e.toExpr names)
    | .plus e => .plus (e.toExpr names)
    | .push e i => .push (e.toExpr names) (nm names i)
    | .ipush e i => .ipush (e.toExpr names) (nm names i)
  def IExpr.toExprL (names : List String) : List IExpr → List Expr
    | [] => []
    | e :: es => e.toExpr names :: IExpr.toExprL names es
end

def ITok.toToken (names : List String) (t : ITok) : Token := ⟨nm names t.i, t.b, t.e⟩

/-- What a result of `evalI` says about the result of `evalF` on the named expression: nothing when
    `evalI` has no answer; otherwise `evalF` has the same answer, with some event list, and in case
    of a match with a forest whose post-order is the token list of `evalI`. -/
inductive Sim (names : List String) : IRes → Option (Res × List Token) → Prop where
  | unknown {o} : Sim names .unknown o
  | fail {evs} : Sim names .fail (some (.fail, evs))
  | ok {p t f evs} : postorderL f = t.map (ITok.toToken names) →
      Sim names (.ok p t) (some (.ok p f, evs))

section
variable {names : List String} {G : Grammar} {ρ : String → Nat → Bool} {B : List IExpr}
  {inp : List Nat} {fuel : Nat}

/-! What a step of `stepI` does with the result of a recursive call, against the clause of `evalF`
    that does the same.  Such a clause is a `match` on `none`, a failure (`A`) and a match (`C`).

    FRAGILE BY DESIGN: in `evalI_sim` the `match` in each conclusion below is unified with what
    `simp only [evalF]` leaves of the clause, and the unifier does not reorder alternatives.  So each
    lemma lists them in the order its clauses of `evalF` (Model/Sem.lean) have: failure first for
    sequence and `<e>`, match first for alternation, `e?`, `&e`, `!e`.  If a clause of `evalF` is
    rewritten, the `exact` at its use fails with a mismatch of two `match`es: restate the lemma. -/
section
variable {r : IRes} {o : Option (Res × List Token)} {A : List Token → Option (Res × List Token)}
  {C : Nat → List TokTree → List Token → Option (Res × List Token)}

/-- For `.seq`, `.push` / `.ipush` (failure first). -/
theorem Sim.andThen {k : Nat → List ITok → IRes} : Sim names r o →
    (∀ evs, Sim names .fail (A evs)) →
    (∀ p t f evs, postorderL f = t.map (ITok.toToken names) → Sim names (k p t) (C p f evs)) →
    Sim names (r.andThen k)
      (match o with
       | none => none
       | some (.fail, evs) => A evs
       | some (.ok p f, evs) => C p f evs)
  | .unknown, _, _ => .unknown
  | .fail, hf, _ => hf _
  | .ok hp, _, hok => hok _ _ _ _ hp

/-- For `.alt`, `.query` (match first). -/
theorem Sim.orElse {k : IRes} : Sim names r o →
    (∀ p t f evs, postorderL f = t.map (ITok.toToken names) → Sim names (.ok p t) (C p f evs)) →
    (∀ evs, Sim names k (A evs)) →
    Sim names (r.orElse k)
      (match o with
       | none => none
       | some (.ok p f, evs) => C p f evs
       | some (.fail, evs) => A evs)
  | .unknown, _, _ => .unknown
  | .fail, _, hf => hf _
  | .ok hp, hok, _ => hok _ _ _ _ hp

/-- For `.peekFor`, `.peekNot` (match first). -/
theorem Sim.peekI {p : Nat} {neg : Bool} : Sim names r o →
    (∀ p' f evs, Sim names (peekI (.ok p' []) p neg) (C p' f evs)) →
    (∀ evs, Sim names (peekI .fail p neg) (A evs)) →
    Sim names (peekI r p neg)
      (match o with
       | none => none
       | some (.ok p' f, evs) => C p' f evs
       | some (.fail, evs) => A evs)
  | .unknown, _, _ => .unknown
  | .fail, _, hf => hf _
  | .ok _, hok, _ => hok _ _ _

/-- `Sim` does not look at the events.  Only for the second half of `.alt`, where `evalF` puts the
    events of the failed alternative in front (`evs1 ++ evs2`) by a `match` of this shape. -/
theorem Sim.evs {g : List Token → List Token} : Sim names r o →
    Sim names r
      (match o with
       | none => none
       | some (res, evs) => some (res, g evs))
  | .unknown => .unknown
  | .fail => .fail
  | .ok hp => .ok hp

end

/-- The clause of `evalF` for the rule wrapper `.ipush` is the same text as the one for `.push`, so
    this serves both. -/
theorem tokI_sim
    (ih : ∀ e p, Sim names (evalI B inp fuel e p) (evalF G ρ inp fuel (e.toExpr names) p))
    (e : IExpr) (i p : Nat) :
    Sim names (tokI (evalI B inp fuel) e i p)
      (evalF G ρ inp (fuel + 1) (.push (e.toExpr names) (nm names i)) p) := by
  have h := ih e p
  cases e with
  | act c => exact .ok (by simp [ITok.toToken])
  | _ =>
    simp only [tokI, IExpr.toExpr, evalF] at h ⊢
    exact h.andThen (fun _ => .fail) fun _ _ _ _ hp => .ok (by simp [hp, ITok.toToken])

/-- `e*` and `e+`: `repI` against the common shape of the two clauses of `evalF`, which differ in
    what they return when the first attempt at `e` fails (`zo`). -/
theorem repI_sim
    (ih : ∀ e p, Sim names (evalI B inp fuel e p) (evalF G ρ inp fuel (e.toExpr names) p))
    (e : IExpr) (p : Nat) {zero : IRes} {zo : List Token → Option (Res × List Token)}
    (hz : ∀ evs, Sim names zero (zo evs)) :
    Sim names (repI (evalI B inp fuel) e (evalI B inp fuel e p) zero)
      (match evalF G ρ inp fuel (e.toExpr names) p with
       | none => none
       | some (.fail, evs) => zo evs
       | some (.ok p1 f1, evs1) =>
         match evalF G ρ inp fuel (.star (e.toExpr names)) p1 with
         | none => none
         | some (.fail, _) => none
         | some (.ok p2 f2, evs2) => some (.ok p2 (f1 ++ f2), evs1 ++ evs2)) := by
  match evalI B inp fuel e p, evalF G ρ inp fuel (e.toExpr names) p, ih e p with
  | _, _, .unknown => exact .unknown
  | _, _, .fail => exact hz _
  | _, _, .ok (p := p1) h1 =>
    have h2 := ih (.star e) p1
    simp only [IExpr.toExpr] at h2
    simp only [repI]
    match evalI B inp fuel (.star e) p1, evalF G ρ inp fuel (.star (e.toExpr names)) p1, h2 with
    | _, _, .unknown => exact .unknown
    | _, _, .fail => exact .unknown
    | _, _, .ok h2 => exact .ok (by simp [postorderL_append, h1, h2])

/-- The one induction on the evaluators; everything below reads an answer of `evalI` as an answer of
    `evalF` through it. -/
theorem evalI_sim (hB : ∀ i b, B[i]? = some b → G.body (nm names i) = some (b.toExpr names)) :
    ∀ fuel e p, Sim names (evalI B inp fuel e p) (evalF G ρ inp fuel (e.toExpr names) p) := by
  intro fuel
  induction fuel with
  | zero => intro e p; exact .unknown
  | succ fuel ih =>
    intro e p
    cases e with
    | dot =>
      simp only [evalI, stepI, symI, IExpr.toExpr, evalF]
      cases inp[p]? <;> first | exact .fail | exact .ok rfl
    | chr c =>
      simp only [evalI, stepI, symI, IExpr.toExpr, evalF]
      cases h : inp[p]? with
      | none => simpa using Sim.fail
      | some x =>
        by_cases hx : x = c
        · subst hx; simpa using Sim.ok rfl
        · have hb : Nat.beq c x = false := Bool.eq_false_iff.mpr fun hb => hx (Nat.eq_of_beq_eq_true hb).symm
          simpa [hb, hx] using Sim.fail
    | rng lo hi =>
      simp only [evalI, stepI, symI, IExpr.toExpr, evalF]
      cases h : inp[p]? with
      | none => exact .fail
      | some x =>
        by_cases hx : lo ≤ x ∧ x ≤ hi
        · simpa [hx] using Sim.ok rfl
        · have hb : (Nat.ble lo x && Nat.ble x hi) = false :=
            Bool.eq_false_iff.mpr fun hb => hx (by simpa [Nat.ble_eq] using hb)
          simp only [hb, hx]
          exact .fail
    | ref i =>
      simp only [evalI, stepI, IExpr.toExpr, evalF]
      cases hb : B[i]? with
      | none => exact .unknown
      | some b => simp only [hB i b hb]; exact ih b p
    | act c => exact .ok rfl
    | nil => exact .ok rfl
    | seq es =>
      cases es with
      | nil => exact .ok rfl
      | cons e es =>
        simp only [evalI, stepI, seqI, IExpr.toExpr, IExpr.toExprL, evalF]
        exact (ih e p).andThen (fun _ => .fail) fun p1 _ _ _ h1 =>
          (ih (.seq es) p1).andThen (fun _ => .fail) fun _ _ _ _ h2 =>
            .ok (by simp [postorderL_append, h1, h2])
    | alt es =>
      match es with
      | [] => exact .unknown
      | [e] => simp only [evalI, stepI, altI, IExpr.toExpr, IExpr.toExprL, evalF]; exact ih e p
      | e :: e' :: es =>
        simp only [evalI, stepI, altI, IExpr.toExpr, IExpr.toExprL, evalF]
        exact (ih e p).orElse (fun _ _ _ _ h1 => .ok h1) fun _ => (ih (.alt (e' :: es)) p).evs
    | peekFor e =>
      simp only [evalI, stepI, IExpr.toExpr, evalF]
      exact (ih e p).peekI (fun _ _ _ => .ok rfl) fun _ => .fail
    | peekNot e =>
      simp only [evalI, stepI, IExpr.toExpr, evalF]
      exact (ih e p).peekI (fun _ _ _ => .fail) fun _ => .ok rfl
    | query e =>
      simp only [evalI, stepI, IExpr.toExpr, evalF]
      exact (ih e p).orElse (fun _ _ _ _ h1 => .ok h1) fun _ => .ok rfl
    | star e => exact repI_sim ih e p fun _ => .ok rfl
    | plus e => exact repI_sim ih e p fun _ => .fail
    | push e i => exact tokI_sim ih e i p
    | ipush e i => exact tokI_sim ih e i p

/-! ### fuel: more of it only turns "no answer" into an answer -/

/-- `r'` answers whatever `r` answers. -/
def IRes.le (r r' : IRes) : Prop := r = .unknown ∨ r = r'

theorem IRes.le.congr {r r' : IRes} {F F' : IRes → IRes} (h : r.le r') (hu : F .unknown = .unknown)
    (hF : ∀ x, (F x).le (F' x)) : (F r).le (F' r') := by
  rcases h with rfl | rfl
  · exact .inl hu
  · exact hF r

theorem IRes.le.andThen {r r' : IRes} {k k' : Nat → List ITok → IRes} (h : r.le r')
    (hk : ∀ p t, (k p t).le (k' p t)) : (r.andThen k).le (r'.andThen k') :=
  h.congr (F := (·.andThen k)) (F' := (·.andThen k')) rfl fun x => by
    cases x with
    | ok p t => exact hk p t
    | _ => exact .inr rfl

theorem IRes.le.orElse {r r' k k' : IRes} (h : r.le r') (hk : k.le k') :
    (r.orElse k).le (r'.orElse k') :=
  h.congr (F := (·.orElse k)) (F' := (·.orElse k')) rfl fun x => by
    cases x with
    | fail => exact hk
    | _ => exact .inr rfl

theorem stepI_mono {ev ev' : IExpr → Nat → IRes} (H : ∀ e p, (ev e p).le (ev' e p)) (e : IExpr)
    (p : Nat) : (stepI B inp ev e p).le (stepI B inp ev' e p) := by
  have hrep : ∀ e zero, (repI ev e (ev e p) zero).le (repI ev' e (ev' e p) zero) := fun e zero =>
    (H e p).congr (F := (repI ev e · zero)) (F' := (repI ev' e · zero)) rfl fun x => by
      cases x with
      | ok p1 t1 =>
        simp only [repI]
        rcases H (.star e) p1 with h | h
        · rw [h]; exact .inl rfl
        · rw [h]; exact .inr rfl
      | _ => exact .inr rfl
  have htok : ∀ e i, (tokI ev e i p).le (tokI ev' e i p) := by
    intro e i
    cases e with
    | act c => exact .inr rfl
    | _ => exact (H _ p).andThen fun _ _ => .inr rfl
  have hpeek : ∀ e neg, (peekI (ev e p) p neg).le (peekI (ev' e p) p neg) := fun e neg =>
    (H e p).congr (F := (peekI · p neg)) rfl fun _ => .inr rfl
  cases e with
  | ref i =>
    simp only [stepI]
    cases B[i]? with
    | none => exact .inl rfl
    | some b => exact H b p
  | seq es =>
    cases es with
    | nil => exact .inr rfl
    | cons e es => exact (H e p).andThen fun p1 _ => (H (.seq es) p1).andThen fun _ _ => .inr rfl
  | alt es =>
    match es with
    | [] => exact .inl rfl
    | [e] => exact H e p
    | e :: e' :: es => exact (H e p).orElse (H _ p)
  | query e => exact (H e p).orElse (.inr rfl)
  | peekFor e => exact hpeek e false
  | peekNot e => exact hpeek e true
  | star e => exact hrep e _
  | plus e => exact hrep e _
  | push e i => exact htok e i
  | ipush e i => exact htok e i
  | _ => exact .inr rfl

theorem evalI_mono (fuel k : Nat) (e : IExpr) (p : Nat) :
    (evalI B inp fuel e p).le (evalI B inp (fuel + k) e p) := by
  induction fuel generalizing e p with
  | zero => exact .inl rfl
  | succ fuel ih =>
    rw [Nat.add_right_comm]
    exact stepI_mono ih e p

/-! ### `Execute()` and the builder -/

/-- What `Execute()` does with a token of a rule. -/
inductive IKind where
  | text                                      -- `case rulePegText:`
  | act (ops : List Sym → Option (List Op))   -- `case ruleActionN:` the builder calls of its code, given `text`
  | other                                     -- no arm

variable {acts : List String} {tbl : List (String × Option (List Call))} {K : List IKind}
  {buf : List Sym}

/-- `k` is the kind of the rule named `n`: it records the outcome of the tests `executeFrom` makes
    on a token's rule and, for an action, what `runEvents` finds in the table. -/
def IsKind (acts : List String) (tbl : List (String × Option (List Call))) (n : String) : IKind → Prop
  | .text => n = "PegText"
  | .act f => n ≠ "PegText" ∧ acts.contains n = true ∧
      ∀ text, f text = match lookupAct tbl n with
        | some (some calls) => callsToOps text calls
        | _ => none
  | .other => n ≠ "PegText" ∧ acts.contains n = false

/-- `executeFrom`; an event is the number of the action rule and the variables of `Execute`. -/
def execI (K : List IKind) (buf : List Sym) : ExecState → List ITok → Option (List (Nat × ExecState))
  | _, [] => some []
  | s, t :: ts =>
    match K[t.i]? with
    | some .text =>
      (match slice? buf t.b t.e with
       | none => none
       | some x => execI K buf ⟨t.b, t.e, x⟩ ts)
    | some (.act _) => (execI K buf s ts).map ((t.i, s) :: ·)
    | some .other => execI K buf s ts
    | none => none

/-- `runEvents`; `none` when the table does not resolve an action. -/
def runI (K : List IKind) : List (Nat × ExecState) → BState → Option (Out BState)
  | [], st => some (.ok st)
  | (i, s) :: evs, st =>
    match K[i]? with
    | some (.act f) =>
      (match f s.text with
       | some ops =>
         (match applyOps ops st with
          | .ok st' => runI K evs st'
          | o => some o)
       | none => none)
    | _ => none

/-- The part `frontCore`, `frontCharCore` and `frontFoldCore` share, from rule `entry`: where the
    match ends and what the builder is left with.  `none`: no answer (out of fuel, a capture out
    of range, an action the table does not resolve); `some none`: the text does not match. -/
def pipeI (B : List IExpr) (K : List IKind) (entry : Nat) (text : List Sym) (fuel : Nat) :
    Option (Option (Nat × Out BState)) :=
  match evalI B text fuel (.ref entry) 0 with
  | .unknown => none
  | .fail => some none
  | .ok p toks =>
    match execI K text ExecState.init toks with
    | none => none
    | some evs => (runI K evs BState.init).map fun o => some (p, o)

theorem pipeI_eq_fail {i : Nat} {text : List Sym} :
    pipeI B K i text fuel = some none ↔ evalI B text fuel (.ref i) 0 = .fail := by
  unfold pipeI
  split
  · next h => simp [h]
  · next h => simp [h]
  · next h => rw [h]; split <;> simp

theorem pipeI_eq_some {i : Nat} {text : List Sym} {p : Nat} {o : Out BState} :
    pipeI B K i text fuel = some (some (p, o)) ↔
      ∃ toks evs, evalI B text fuel (.ref i) 0 = .ok p toks ∧
        execI K text ExecState.init toks = some evs ∧ runI K evs BState.init = some o := by
  constructor
  · intro h
    unfold pipeI at h
    split at h
    · cases h
    · cases h
    · next p' toks he =>
      split at h
      · cases h
      · next evs hx =>
        simp only [Option.map_eq_some_iff, Option.some.injEq, Prod.mk.injEq] at h
        obtain ⟨_, hr, rfl, rfl⟩ := h
        exact ⟨toks, evs, he, hx, hr⟩
  · rintro ⟨toks, evs, he, hx, hr⟩
    simp only [pipeI, he, hx, hr, Option.map_some]

def ActEvent.ofI (names : List String) (ev : Nat × ExecState) : ActEvent :=
  ActEvent.mk' (nm names ev.1) ev.2

theorem execI_sim (hK : ∀ i k, K[i]? = some k → IsKind acts tbl (nm names i) k) (buf : List Sym) :
    ∀ toks s evs, execI K buf s toks = some evs →
      (executeFrom acts buf s (toks.map (ITok.toToken names))).map (·.1) =
        some (evs.map (ActEvent.ofI names)) := by
  intro toks
  induction toks with
  | nil => intro s evs h; cases h; rfl
  | cons t ts ih =>
    intro s evs h
    simp only [execI] at h
    simp only [List.map_cons, executeFrom, ITok.toToken]
    cases hk : K[t.i]? with
    | none => simp [hk] at h
    | some k =>
      rw [hk] at h
      have hs := hK _ _ hk
      cases k with
      | text =>
        simp only [show nm names t.i = "PegText" from hs, if_true]
        cases hsl : slice? buf t.b t.e with
        | none => simp [hsl] at h
        | some x => simp only [hsl] at h ⊢; exact ih _ _ h
      | act f =>
        obtain ⟨hne, hact, _⟩ := hs
        simp only [hne, hact, if_false, if_true]
        simp only [Option.map_eq_some_iff] at h
        obtain ⟨evs', h, rfl⟩ := h
        have := ih _ _ h
        cases he : executeFrom acts buf s (ts.map (ITok.toToken names)) with
        | none => simp [he] at this
        | some r => simp [he] at this ⊢; simp [this, ActEvent.ofI]
      | other =>
        obtain ⟨hne, hact⟩ := hs
        simp only [hne, hact, if_false]
        exact ih _ _ h

theorem runI_sim (hK : ∀ i k, K[i]? = some k → IsKind acts tbl (nm names i) k) :
    ∀ evs st o, runI K evs st = some o → runEvents tbl (evs.map (ActEvent.ofI names)) st = o := by
  intro evs
  induction evs with
  | nil => intro st o h; cases h; rfl
  | cons ev evs ih =>
    intro st o h
    obtain ⟨i, s⟩ := ev
    simp only [runI] at h
    simp only [List.map_cons, runEvents, ActEvent.ofI, ActEvent.mk']
    cases hk : K[i]? with
    | none => simp [hk] at h
    | some k =>
      rw [hk] at h
      have hs := hK _ _ hk
      cases k with
      | text => simp at h
      | other => simp at h
      | act f =>
        -- `runI` answers only if `f` gives calls, and `f` reads them off the code the table holds
        obtain ⟨_, _, hf⟩ := hs
        simp only [hf] at h
        match hl : lookupAct tbl (nm names i) with
        | none => simp [hl] at h
        | some none => simp [hl] at h
        | some (some calls) =>
          simp only [hl] at h ⊢
          cases hc : callsToOps s.text calls with
          | none => simp [hc] at h
          | some ops =>
            simp only [hc] at h ⊢
            cases ha : applyOps ops st with
            | ok st' => simp only [ha] at h ⊢; exact ih _ _ h
            | panic m => simp only [ha] at h ⊢; cases h; rfl
            | unsupported m => simp only [ha] at h ⊢; cases h; rfl

/-- `Execute()` on a token list continues on a second one where it stopped. -/
theorem execI_append : ∀ (ts : List ITok) (s : ExecState) (evs : List (Nat × ExecState)),
    execI K buf s ts = some evs →
    ∃ s', ∀ ts' evs', execI K buf s' ts' = some evs' → execI K buf s (ts ++ ts') = some (evs ++ evs') := by
  intro ts
  induction ts with
  | nil => intro s evs h; cases h; exact ⟨s, fun _ _ h' => h'⟩
  | cons t ts ih =>
    intro s evs h
    simp only [execI, List.cons_append] at h ⊢
    cases hk : K[t.i]? with
    | none => simp [hk] at h
    | some k =>
      rw [hk] at h
      cases k with
      | text =>
        cases hs : slice? buf t.b t.e with
        | none => simp [hs] at h
        | some x => simp only [hs] at h ⊢; exact ih _ _ h
      | act f =>
        simp only [Option.map_eq_some_iff] at h
        obtain ⟨evs0, h, rfl⟩ := h
        obtain ⟨s', hs'⟩ := ih _ _ h
        exact ⟨s', fun ts' evs' h' => by simp [hs' ts' evs' h']⟩
      | other => exact ih _ _ h

theorem runI_append : ∀ (evs : List (Nat × ExecState)) (st st' : BState) (evs' : List (Nat × ExecState)),
    runI K evs st = some (.ok st') → runI K (evs ++ evs') st = runI K evs' st' := by
  intro evs
  induction evs with
  | nil => intro st st' evs' h; cases h; rfl
  | cons ev evs ih =>
    intro st st' evs' h
    obtain ⟨i, s⟩ := ev
    simp only [runI, List.cons_append] at h ⊢
    cases hk : K[i]? with
    | none => simp [hk] at h
    | some k =>
      rw [hk] at h
      cases k with
      | act f =>
        simp only at h ⊢
        cases hf : f s.text with
        | none => simp [hf] at h
        | some ops =>
          simp only [hf] at h ⊢
          cases ha : applyOps ops st with
          | ok st1 => simp only [ha] at h ⊢; exact ih _ _ _ h
          | panic m => simp [ha] at h
          | unsupported m => simp [ha] at h
      | text => simp at h
      | other => simp at h

theorem pipeI_mono {i : Nat} {text : List Sym} {x : Option (Nat × Out BState)} {fuel' : Nat}
    (hf : fuel ≤ fuel') (h : pipeI B K i text fuel = some x) : pipeI B K i text fuel' = some x := by
  obtain ⟨k, rfl⟩ := Nat.exists_eq_add_of_le hf
  unfold pipeI at h ⊢
  rcases evalI_mono (B := B) (inp := text) fuel k (.ref i) 0 with hu | he
  · rw [hu] at h; cases h
  · rw [← he]; exact h

/-- The numbered grammar `B` with the table `K`, under the names `names`, IS the grammar `G` with
    the action names `acts` and the action table `tbl`. -/
structure Numbered (names : List String) (B : List IExpr) (K : List IKind) (G : Grammar)
    (acts : List String) (tbl : List (String × Option (List Call))) : Prop where
  body : ∀ i b, B[i]? = some b → G.body (nm names i) = some (b.toExpr names)
  kind : ∀ i k, K[i]? = some k → IsKind acts tbl (nm names i) k

/-- `frontCore` after the shared part (`none`: the numbered run gave no answer). -/
def resultOf : Option (Option (Nat × Out BState)) → Option FrontResult
  | none => none
  | some none => some .syntaxError
  | some (some (_, .ok st)) => some st.finish
  | some (some (_, .panic m)) => some (.panic m)
  | some (some (_, .unsupported m)) => some (.unsupported m)

/-- `frontCharCore` after the shared part. -/
def charOf (len : Nat) : Option (Option (Nat × Out BState)) → Option (Option EscDen)
  | none => none
  | some none => some none
  | some (some (p, .ok st)) =>
    some (if p = len then
      match st.items, st.errs with
      | [Node.mk .character [c] _ []], [] => some (.cp c)
      | [Node.mk .character [_] _ []], e :: es => some (.err (e :: es))
      | _, _ => none
    else none)
  | some (some (_, _)) => some none

section
variable (H : Numbered names B K G acts tbl)
include H

/-- For tokens given by hand (Proofs/FrontHex.lean, Proofs/FrontFold.lean) as for those of `evalI`. -/
theorem Numbered.run_sound {text : List Sym} {f : List TokTree} {toks : List ITok}
    {evs : List (Nat × ExecState)} {o : Out BState}
    (ht : postorderL f = toks.map (ITok.toToken names))
    (hx : execI K text ExecState.init toks = some evs) (hr : runI K evs BState.init = some o) :
    (execute acts text (postorderL f)).map (fun evts => runEvents tbl evts BState.init) = some o := by
  rw [execute, ht, execI_sim H.kind text _ _ _ hx, Option.map_some, runI_sim H.kind _ _ _ hr]

/-- What an answer of `pipeI` is worth on the named side, run with as much fuel or more; `frontCore_eq`
    and its likes read the model functions off these two. -/
theorem pipeI_sound_fail {i : Nat} {text : List Sym} {fuel' : Nat} (hf : fuel ≤ fuel')
    (h : pipeI B K i text fuel = some none) :
    ∃ evs, evalF G (fun _ _ => false) text fuel' (.name (nm names i)) 0 = some (.fail, evs) := by
  have hs := evalI_sim (ρ := fun _ _ => false) (inp := text) H.body fuel' (.ref i) 0
  rw [pipeI_eq_fail.mp (pipeI_mono hf h)] at hs
  match evalF G (fun _ _ => false) text fuel' _ 0, hs with
  | _, .fail => exact ⟨_, rfl⟩

theorem pipeI_sound_ok {i : Nat} {text : List Sym} {p : Nat} {o : Out BState} {fuel' : Nat}
    (hf : fuel ≤ fuel') (h : pipeI B K i text fuel = some (some (p, o))) :
    ∃ f evs evts, evalF G (fun _ _ => false) text fuel' (.name (nm names i)) 0 = some (.ok p f, evs) ∧
      execute acts text (postorderL f) = some evts ∧ runEvents tbl evts BState.init = o := by
  obtain ⟨toks, evs, he, hx, hr⟩ := pipeI_eq_some.mp (pipeI_mono hf h)
  have hs := evalI_sim (ρ := fun _ _ => false) (inp := text) H.body fuel' (.ref i) 0
  rw [he] at hs
  match evalF G (fun _ _ => false) text fuel' _ 0, hs with
  | _, .ok ht =>
    exact ⟨_, _, (Option.map_eq_some_iff.mp (H.run_sound ht hx hr)).imp fun _ h => ⟨rfl, h⟩⟩

theorem frontCore_eq {i : Nat} {text : List Sym} {fuel : Nat} {r : FrontResult}
    (h : resultOf (pipeI B K i text fuel) = some r) :
    frontCore G acts tbl (nm names i) text fuel = r := by
  rcases hp : pipeI B K i text fuel with _ | _ | ⟨p, o⟩ <;> rw [hp] at h
  · cases h
  · cases h
    obtain ⟨evs, h1⟩ := pipeI_sound_fail H (Nat.le_refl _) hp
    simp only [frontCore, h1]
  · obtain ⟨f, evs, evts, h1, h2, h3⟩ := pipeI_sound_ok H (Nat.le_refl _) hp
    cases o <;> cases h <;> simp only [frontCore, h1, h2, h3]

/-- `frontCharCore` runs with fuel 64. -/
theorem frontCharCore_eq {i : Nat} (hn : nm names i = "Escape") {sp : List Sym} {fuel : Nat}
    (hf : fuel ≤ 64) {d : Option EscDen} (h : charOf sp.length (pipeI B K i sp fuel) = some d) :
    frontCharCore G acts tbl sp = d := by
  rcases hp : pipeI B K i sp fuel with _ | _ | ⟨p, o⟩ <;> rw [hp] at h
  · cases h
  · cases h
    obtain ⟨evs, h1⟩ := pipeI_sound_fail H hf hp
    simp only [frontCharCore, ← hn, h1]
  · obtain ⟨f, evs, evts, h1, h2, h3⟩ := pipeI_sound_ok H hf hp
    cases o with
    | ok st => cases h; simp only [frontCharCore, ← hn, h1, h2, h3]; rfl
    | panic m => cases h; simp only [frontCharCore, ← hn, h1, h2, h3]; split <;> rfl
    | unsupported m => cases h; simp only [frontCharCore, ← hn, h1, h2, h3]; split <;> rfl
end

end

/-! ### numbering a grammar

    A reference becomes the position of its name among the rule names.  Names are compared through
    a number (`nameKey`), which the kernel computes from the bytes of a name once. -/

def bytesKey : List UInt8 → Nat
  | [] => 0
  | b :: bs => bytesKey bs * 256 + b.toNat + 1

theorem bytesKey_inj : ∀ {l l' : List UInt8}, bytesKey l = bytesKey l' → l = l'
  | [], [], _ => rfl
  | [], b :: bs, h => by simp only [bytesKey] at h; omega
  | b :: bs, [], h => by simp only [bytesKey] at h; omega
  | b :: bs, b' :: bs', h => by
    simp only [bytesKey] at h
    have hb := b.toNat_lt
    have hb' := b'.toNat_lt
    have h1 : bytesKey bs = bytesKey bs' := by omega
    have h2 : b.toNat = b'.toNat := by omega
    rw [bytesKey_inj h1, UInt8.toNat_inj.mp h2]

def nameKey (s : String) : Nat := bytesKey s.toByteArray.data.toList

theorem nameKey_inj {s t : String} (h : nameKey s = nameKey t) : s = t :=
  String.toByteArray_inj.mp (ByteArray.ext (Array.toList_inj.mp (bytesKey_inj h)))

/-- The position of the key `k` (`Nat.beq`, the `cond` and the running count keep the kernel's work per
    step small). -/
def keyIdx (k : Nat) : List Nat → Nat → Nat
  | [], i => i
  | x :: xs, i => cond (Nat.beq x k) i (keyIdx k xs (Nat.succ i))

mutual
  /-- `keys` are the keys of the rule names.  That this inverts `toExpr` is not proved in general:
      `numbered_of` asks for it as an equation about the grammar at hand. -/
  def IExpr.ofExpr (keys : List Nat) : Expr → IExpr
    | .dot => .dot
    | .chr c => .chr c
    | .rng lo hi => .rng lo hi
    | .name n => .ref (keyIdx (nameKey n) keys 0)
    | .act c => .act c
    | .seq es => .seq (IExpr.ofExprL keys es)
    | .alt es => .alt (IExpr.ofExprL keys es)
    | .peekFor e => .peekFor (IExpr.ofExpr keys e)
    | .peekNot e => .peekNot (IExpr.ofExpr keys e)
    | .query e => .query (IExpr.ofExpr keys e)
    | .star e => .star (IExpr.ofExpr keys e)
    | .plus e => .plus (IExpr.ofExpr keys e)
    | .push e r => .push (IExpr.ofExpr keys e) (keyIdx (nameKey r) keys 0)
    | .ipush e r => .ipush (IExpr.ofExpr keys e) (keyIdx (nameKey r) keys 0)
    | _ => .nil
  def IExpr.ofExprL (keys : List Nat) : List Expr → List IExpr
    | [] => []
    | e :: es => IExpr.ofExpr keys e :: IExpr.ofExprL keys es
end

def Grammar.names (G : Grammar) : List String := G.rules.map (·.name)

def bodiesOf (G : Grammar) : List IExpr :=
  G.rules.map fun r => IExpr.ofExpr (G.names.map nameKey) r.body

def kindOfKey (acts : List Nat) (tbl : List (Nat × Option (List Call))) (k : Nat) : IKind :=
  if Nat.beq k (nameKey "PegText") then .text
  else if acts.any (Nat.beq k) then
    match (tbl.find? fun a => Nat.beq a.1 k).map (·.2) with
    | some (some calls) => .act fun text => callsToOps text calls
    | _ => .act fun _ => none
  else .other

def kindsOf (acts : List String) (tbl : List (String × Option (List Call))) (G : Grammar) : List IKind :=
  G.names.map fun n =>
    kindOfKey (acts.map nameKey) (tbl.map fun a => (nameKey a.1, a.2)) (nameKey n)

theorem nameKey_beq (s t : String) : Nat.beq (nameKey s) (nameKey t) = (s == t) := by
  by_cases h : s = t
  · rw [h, beq_self_eq_true]
    exact Nat.beq_refl _
  · rw [beq_false_of_ne h]
    exact Bool.eq_false_iff.mpr fun hb => h (nameKey_inj (Nat.eq_of_beq_eq_true hb))

theorem kindOfKey_spec (acts : List String) (tbl : List (String × Option (List Call))) (n : String) :
    IsKind acts tbl n
      (kindOfKey (acts.map nameKey) (tbl.map fun a => (nameKey a.1, a.2)) (nameKey n)) := by
  have hc : (acts.map nameKey).any (Nat.beq (nameKey n)) = acts.contains n := by
    induction acts with
    | nil => rfl
    | cons a as ih => simp only [List.map_cons, List.any_cons, List.contains_cons, ih, nameKey_beq]
  have hl : ((tbl.map fun a => (nameKey a.1, a.2)).find? fun a => Nat.beq a.1 (nameKey n)).map (·.2) =
      lookupAct tbl n := by
    unfold lookupAct
    induction tbl with
    | nil => rfl
    | cons a tbl ih =>
      simp only [List.map_cons, List.find?_cons, nameKey_beq]
      cases a.1 == n
      · exact ih
      · rfl
  unfold kindOfKey
  rw [hc, hl, nameKey_beq]
  by_cases h1 : n = "PegText"
  · rw [if_pos (beq_iff_eq.mpr h1)]; exact h1
  · rw [if_neg (mt beq_iff_eq.mp h1)]
    cases h2 : acts.contains n with
    | false => exact ⟨h1, h2⟩
    | true =>
      rw [if_pos rfl]
      cases hl' : lookupAct tbl n with
      | none => exact ⟨h1, h2, fun _ => by rw [hl']⟩
      | some o => cases o <;> exact ⟨h1, h2, fun _ => by rw [hl']⟩

/-- How a `Numbered` is had for a concrete grammar: by two kernel evaluations, `hnd` and `hrt`
    (`pegNumbered`). -/
theorem numbered_of {G : Grammar} (acts : List String) (tbl : List (String × Option (List Call)))
    (hnd : (G.names.map nameKey).Nodup)
    (hrt : G.rules.map (·.body) = (bodiesOf G).map (IExpr.toExpr G.names)) :
    Numbered G.names (bodiesOf G) (kindsOf acts tbl G) G acts tbl where
  body i b hb := by
    have h1 : (G.rules.map (·.body))[i]? = some (b.toExpr G.names) := by
      rw [hrt, List.getElem?_map, hb]; rfl
    rw [List.getElem?_map] at h1
    cases hr : G.rules[i]? with
    | none => rw [hr] at h1; cases h1
    | some r =>
      rw [hr] at h1
      have hb' : r.body = b.toExpr G.names := by simpa using h1
      have hn : nm G.names i = r.name := by simp [nm, List.getD, Grammar.names, hr]
      rw [hn, ← hb']
      exact Grammar.body_of_nodup (List.Pairwise.of_map nameKey (fun _ _ h hab => h (congrArg _ hab)) hnd)
        (List.mem_of_getElem? hr)
  kind i k hk := by
    unfold kindsOf at hk
    rw [List.getElem?_map] at hk
    cases hn : G.names[i]? with
    | none => rw [hn] at hk; cases hk
    | some n =>
      cases hn ▸ hk
      have hi : nm G.names i = n := by simp [nm, List.getD, hn]
      exact hi ▸ kindOfKey_spec acts tbl n

end PegVerif
