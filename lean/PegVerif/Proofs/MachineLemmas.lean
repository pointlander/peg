import PegVerif.Model.Machine
import PegVerif.Model.Sem
/-
  The `maxToken` update of `add` and what the rune buffer holds; the machine is deterministic, and the
  fuelled interpreter `execF` (the executable side used by the T-run tie) only returns results that
  the relation `Exec` allows.
-/
namespace PegVerif

/-- The `maxToken` update of `add`: the first non-empty token that reaches furthest wins. -/
def updTok (mt t : Token) : Token := if t.b ≠ t.e ∧ t.e > mt.e then t else mt

theorem doAdd_maxTok (cfg : Cfg) (rule : String) (b : Nat) (s : St) :
    (doAdd cfg rule b s).maxTok = updTok s.maxTok ⟨rule, b, s.pos⟩ := by
  simp [doAdd, updTok]

theorem foldl_updTok_append (mt : Token) (a b : List Token) :
    (a ++ b).foldl updTok mt = b.foldl updTok (a.foldl updTok mt) := by simp

theorem buf_lt {inp : List Sym} {p : Nat} (h : p < inp.length) : (bufOf inp)[p]? = inp[p]? := by
  simp [bufOf, List.getElem?_append_left h]

theorem buf_end (inp : List Sym) : (bufOf inp)[inp.length]? = some END := by
  simp [bufOf]

theorem buf_cases {inp : List Sym} {p : Nat} (h : p ≤ inp.length) :
    (∃ c, inp[p]? = some c ∧ (bufOf inp)[p]? = some c) ∨
    (inp[p]? = none ∧ p = inp.length ∧ (bufOf inp)[p]? = some END) := by
  by_cases hp : p < inp.length
  · left; exact ⟨inp[p], by simp [hp], by rw [buf_lt hp]; simp [hp]⟩
  · right
    have : p = inp.length := by omega
    subst this
    exact ⟨by simp, rfl, buf_end inp⟩

theorem buf_peek {inp : List Sym} {p : Nat} (h : p ≤ inp.length) : (bufOf inp)[p]? = some (peek inp p) := by
  rcases buf_cases h with ⟨c, hc, hb⟩ | ⟨hn, _, hb⟩
  · rw [hb, peek, hc]; rfl
  · rw [hb, peek, hn]; rfl

theorem buf_extract {inp : List Sym} {b e : Nat} (hbe : b ≤ e) (he : e ≤ inp.length) :
    (bufOf inp).extract b e = inp.extract b e := by
  simp only [List.extract, bufOf]
  rw [List.drop_append_of_le_length (by omega)]
  rw [List.take_append_of_le_length (by simp; omega)]

variable {P : Program} {cfg : Cfg} {inp : List Sym}

/-- The body of `execF` without the fuel: what a run from `pc` must look like, given the local step
    of the instruction at `pc` and, for a call, the callee. -/
def Exec.After (P : Program) (cfg : Cfg) (inp : List Sym) (c : Code) (pc : Nat) (s : St) (f : Frame)
    (r : Outcome × St) : Local → Prop
  | .next s' f' => Exec P cfg inp c (pc + 1) s' f' r
  | .jump l s' f' => ∃ pc', labelPos c l = some pc' ∧ Exec P cfg inp c pc' s' f' r
  | .sjump sw k s' f' => ∃ pc', slabelPos c sw k = some pc' ∧ Exec P cfg inp c pc' s' f' r
  | .sexit sw s' f' => ∃ pc', sendPos c sw = some pc' ∧ Exec P cfg inp c pc' s' f' r
  | .ret b s' => r = (.ret b, s')
  | .panic => r = (.panic, s)
  | .isCall rn l => ∀ cr?, P.find rn = cr? →
    match cr? with
    | none => r = (.panic, s)
    | some cr => ∃ o s1, Exec P cfg inp cr 0 s Frame.empty (o, s1) ∧
      match o with
      | .panic => r = (.panic, s1)
      | .ret b =>
        if b = true ∨ l = none then Exec P cfg inp c (pc + 1) s1 f r
        else ∃ l' pc', l = some l' ∧ labelPos c l' = some pc' ∧ Exec P cfg inp c pc' s1 f r

/-- Inversion.  The local step `loc` (and in `Exec.After` the callee `cr?`) is a variable bound by an
    equation: a caller passes the equation it has, whose right side is a constructor, and
    `Exec.After … loc` iota-reduces with no rewriting.  In `Exec_det`, from
    `hs : stepLocal cfg inp i s f = .jump l s' f'`, the term `h2.inv hi hs` is already
    `∃ pc', labelPos c l = some pc' ∧ Exec … pc' s' f' r2`; from `hs : … = .isCall rn l` and
    `hf : P.find rn = none`, `h2.inv hi hs _ hf` is `r2 = (.panic, s)`. -/
theorem Exec.inv {c pc s f r i loc} (h : Exec P cfg inp c pc s f r) (hi : c[pc]? = some i)
    (hs : stepLocal cfg inp i s f = loc) : Exec.After P cfg inp c pc s f r loc := by
  have : ∃ i', c[pc]? = some i' ∧ Exec.After P cfg inp c pc s f r (stepLocal cfg inp i' s f) := by
    cases h with
    | next hi' hs' hr => exact ⟨_, hi', hs' ▸ hr⟩
    | jump hi' hs' hl hr => exact ⟨_, hi', hs' ▸ ⟨_, hl, hr⟩⟩
    | sjump hi' hs' hl hr => exact ⟨_, hi', hs' ▸ ⟨_, hl, hr⟩⟩
    | sexit hi' hs' hl hr => exact ⟨_, hi', hs' ▸ ⟨_, hl, hr⟩⟩
    | ret hi' hs' => exact ⟨_, hi', hs' ▸ rfl⟩
    | panic hi' hs' => exact ⟨_, hi', hs' ▸ rfl⟩
    | callNil hi' hs' hf => exact ⟨_, hi', hs' ▸ fun _ h => h ▸ hf ▸ rfl⟩
    | callPanic hi' hs' hf hc => exact ⟨_, hi', hs' ▸ fun _ h => h ▸ hf ▸ ⟨_, _, hc, rfl⟩⟩
    | callOk hi' hs' hf hc hb hr =>
      exact ⟨_, hi', hs' ▸ fun _ h => h ▸ hf ▸ ⟨_, _, hc, (if_pos hb).mpr hr⟩⟩
    | callFail hi' hs' hf hc hl hr =>
      exact ⟨_, hi', hs' ▸ fun _ h => h ▸ hf ▸ ⟨_, _, hc, (if_neg (by simp)).mpr ⟨_, _, rfl, hl, hr⟩⟩⟩
  obtain ⟨i', hi', hm⟩ := this
  cases hi.symm.trans hi'
  exact hs ▸ hm

theorem Exec_det {c pc s f r1 r2} (h1 : Exec P cfg inp c pc s f r1) (h2 : Exec P cfg inp c pc s f r2) :
    r1 = r2 := by
  induction h1 generalizing r2 with
  | next hi hs _ ih => exact ih (h2.inv hi hs)
  | jump hi hs hl _ ih | sjump hi hs hl _ ih | sexit hi hs hl _ ih =>
    obtain ⟨_, hl', h2⟩ := h2.inv hi hs
    cases hl.symm.trans hl'
    exact ih h2
  | ret hi hs | panic hi hs => exact (h2.inv hi hs).symm
  | callNil hi hs hf => exact (h2.inv hi hs _ hf).symm
  | callPanic hi hs hf _ ihc =>
    obtain ⟨o, s1, hc', h2⟩ := h2.inv hi hs _ hf
    cases ihc hc'
    exact h2.symm
  | callOk hi hs hf _ hb _ ihc ih =>
    obtain ⟨o, s1, hc', h2⟩ := h2.inv hi hs _ hf
    cases ihc hc'
    exact ih ((if_pos hb).mp h2)
  | callFail hi hs hf _ hl _ ihc ih =>
    obtain ⟨o, s1, hc', h2⟩ := h2.inv hi hs _ hf
    cases ihc hc'
    obtain ⟨_, _, e, hl', h2⟩ := (if_neg (by simp)).mp h2
    cases e
    cases hl.symm.trans hl'
    exact ih h2

/-- What one run shows, every run shows. -/
theorem Exec.all_of_ex {c pc s f} {Q : Outcome → St → Prop}
    (h : ∃ o s', Exec P cfg inp c pc s f (o, s') ∧ Q o s') {o s'}
    (hrun : Exec P cfg inp c pc s f (o, s')) : Q o s' := by
  obtain ⟨o1, s1, hex, hQ⟩ := h
  cases Exec_det hex hrun
  exact hQ

theorem execF_sound : ∀ fuel c pc s f r,
    execF P cfg inp fuel c pc s f = some r → Exec P cfg inp c pc s f r := by
  intro fuel
  induction fuel with
  | zero => intro c pc s f r h; simp [execF] at h
  | succ n ih =>
    intro c pc s f r h
    simp only [execF] at h
    split at h
    · cases h
    · next i hi =>
      split at h
      · next s' f' hs => exact Exec.next hi hs (ih _ _ _ _ _ h)
      · next l s' f' hs =>
        split at h
        · next pc' hl => exact Exec.jump hi hs hl (ih _ _ _ _ _ h)
        · cases h
      · next sw k s' f' hs =>
        split at h
        · next pc' hl => exact Exec.sjump hi hs hl (ih _ _ _ _ _ h)
        · cases h
      · next sw s' f' hs =>
        split at h
        · next pc' hl => exact Exec.sexit hi hs hl (ih _ _ _ _ _ h)
        · cases h
      · next b s' hs => cases h; exact Exec.ret hi hs
      · next hs => cases h; exact Exec.panic hi hs
      · next rn l hs =>
        split at h
        · next hf => cases h; exact Exec.callNil hi hs hf
        · next cr hf =>
          split at h
          · cases h
          · next s1 hc => cases h; exact Exec.callPanic hi hs hf (ih _ _ _ _ _ hc)
          · next b s1 hc =>
            split at h
            · next hb => exact Exec.callOk hi hs hf (ih _ _ _ _ _ hc) hb (ih _ _ _ _ _ h)
            · next hb =>
              split at h
              · cases h
              · next l' =>
                split at h
                · next pc' hl =>
                  have hbf : b = false := by
                    cases b
                    · rfl
                    · exact absurd (Or.inl rfl) hb
                  subst hbf
                  exact Exec.callFail hi hs hf (ih _ _ _ _ _ hc) hl (ih _ _ _ _ _ h)
                · cases h

theorem parseF_exec {fuel : Nat} {r : String} {s : St} {c : Code} {o : Outcome} {s' : St}
    (hf : P.find r = some c) (h : execF P cfg inp fuel c 0 s Frame.empty = some (o, s')) :
    Exec P cfg inp c 0 s Frame.empty (o, s') := by
  have _ := hf  -- not needed: it only says whose body `c` is
  exact execF_sound fuel c 0 s Frame.empty (o, s') h

end PegVerif
