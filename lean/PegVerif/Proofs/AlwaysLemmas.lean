import PegVerif.Proofs.SemLemmas
import PegVerif.Model.Analysis
import PegVerif.Model.Checkers
/-
  Soundness of `CheckAlwaysSucceeds` (`casF` / `alwaysSucceeds`): if it answers `true` for a rule, a
  reference to that rule has no failing derivation.

  The analysis answers `true` for a reference to a rule it is currently visiting.  That is sound
  because a failing derivation is finite: `FailN k e p` bounds the height of its failure spine (only
  the failing premises of the constructors `casF` looks through are tracked), every failing
  derivation has such a bound, and soundness is by induction on it.

  `casF` treats `.inl n _` like `.name n` (it looks at the body of rule `n`, `Eval` at the stored
  copy), so the theorem asks for rule bodies without `inl` (`plainS`); `inl` nodes are created by the
  `-inline` pass only.  `.ualt` is answered `false` outright and never looked below, so it may occur
  anywhere.  `plain` (no `inl`, no `ualt`) is what the properties of the default generator use.
-/
namespace PegVerif

/-! ### The side condition: no `inl`, no `ualt` (`Expr.plain`, `Expr.plainS`: `Model/Checkers.lean`) -/

/-- Every rule body that `t.Rules[n]` can return is plain. -/
def Grammar.plain (G : Grammar) : Prop := ∀ n b, G.body n = some b → b.plain = true

theorem Grammar.plain_of_all {G : Grammar}
    (h : G.rules.all (fun r => r.body.plain) = true) : G.plain :=
  fun _ _ hb => Grammar.body_all h hb

theorem plainL_mem {es : List Expr} (h : plainL es = true) : ∀ e ∈ es, e.plain = true := by
  induction es with
  | nil => intro e he; cases he
  | cons a as ih =>
    simp only [plainL, Bool.and_eq_true] at h
    intro e he
    cases he with
    | head => exact h.1
    | tail _ he' => exact ih h.2 e he'

/-! ### The weaker side condition: no `inl` (a `ualt` may occur, with anything below it) -/

/-- By induction along the recursion of `Expr.plain`; the cases are its clauses, in their order,
    followed by those of `plainL`. -/
theorem plain_plainS_both :
    (∀ e : Expr, e.plain = true → e.plainS = true) ∧ (∀ es, plainL es = true → plainSL es = true) := by
  apply Expr.plain.mutual_induct (motive_1 := fun e => e.plain = true → e.plainS = true)
    (motive_2 := fun es => plainL es = true → plainSL es = true)
  case case1 | case2 =>  -- `inl`, `ualt`: not plain
    intros
    rename_i h
    simp [Expr.plain] at h
  case case3 | case4 =>  -- `seq`, `alt`
    intro es ih h
    rw [Expr.plain] at h
    rw [Expr.plainS]
    exact ih h
  case case5 | case6 | case7 | case8 | case9 | case10 | case11 =>  -- the unary operators
    intros
    rename_i ih h
    rw [Expr.plain] at h
    rw [Expr.plainS]
    exact ih h
  case case12 =>  -- every other expression is `plainS` outright
    -- the catch-all equation asks that no earlier pattern applies: the hypotheses of this case
    intros
    rw [Expr.plainS.eq_12] <;> assumption
  case case13 => exact fun _ => rfl
  case case14 =>
    intro e es ih1 ih2 h
    rw [plainL, Bool.and_eq_true] at h
    rw [plainSL, Bool.and_eq_true]
    exact ⟨ih1 h.1, ih2 h.2⟩

theorem plainL_plainSL : ∀ (es : List Expr), plainL es = true → plainSL es = true :=
  plain_plainS_both.2

/-- Every rule body that `t.Rules[n]` can return is `plainS`. -/
def Grammar.plainS (G : Grammar) : Prop := ∀ n b, G.body n = some b → b.plainS = true

theorem Grammar.plain.plainS {G : Grammar} (h : G.plain) : G.plainS :=
  fun n b hb => plain_plainS_both.1 b (h n b hb)

theorem Grammar.plainS_of_all {G : Grammar}
    (h : G.rules.all (fun r => r.body.plainS) = true) : G.plainS :=
  fun _ _ hb => Grammar.body_all h hb

/-! ### Height-bounded failure -/

/-- Expressions for which `casF` answers `false` outright (given `plainS`). -/
def Expr.leafFail : Expr → Bool
  | .dot => true
  | .chr _ => true
  | .rng _ _ => true
  | .str _ => true
  | .pred _ => true
  | .inl _ _ => true
  | .ualt _ _ => true
  | .peekFor _ => true
  | .peekNot _ => true
  | .plus _ => true
  | _ => false

/-- `FailN k e p`: an over-approximation of "`e` fails at `p` by a derivation whose failure spine
    (through `name`, `seq`, `alt`, `push`, `ipush`) has height at most `k`". -/
inductive FailN (G : Grammar) : Nat → Expr → Nat → Prop where
  | leaf {k e p} : e.leafFail = true → FailN G k e p
  | name {k n b p} : G.body n = some b → FailN G k b p → FailN G (k + 1) (.name n) p
  | seq_hd {k e es p} : FailN G k e p → FailN G (k + 1) (.seq (e :: es)) p
  | seq_tl {k e es p p1} : FailN G k (.seq es) p1 → FailN G (k + 1) (.seq (e :: es)) p
  | alt_last {k e p} : FailN G k e p → FailN G (k + 1) (.alt [e]) p
  | alt_next {k e e' es p} : FailN G k e p → FailN G k (.alt (e' :: es)) p →
      FailN G (k + 1) (.alt (e :: e' :: es)) p
  | push {k e r p} : FailN G k e p → FailN G (k + 1) (.push e r) p
  | ipush {k e r p} : FailN G k e p → FailN G (k + 1) (.ipush e r) p

theorem FailN.succ {G : Grammar} {k e p} (h : FailN G k e p) : FailN G (k + 1) e p := by
  induction h with
  | leaf hl => exact .leaf hl
  | name hb _ ih => exact .name hb ih
  | seq_hd _ ih => exact .seq_hd ih
  | seq_tl _ ih => exact .seq_tl ih
  | alt_last _ ih => exact .alt_last ih
  | alt_next _ _ ih1 ih2 => exact .alt_next ih1 ih2
  | push _ ih => exact .push ih
  | ipush _ ih => exact .ipush ih

theorem FailN.mono {G : Grammar} {k k' e p} (h : FailN G k e p) (hk : k ≤ k') :
    FailN G k' e p := by
  induction hk with
  | refl => exact h
  | step _ ih => exact ih.succ

theorem Eval.failN {G : Grammar} {ρ : String → Nat → Bool} {inp : List Sym} {e p res evs}
    (h : Eval G ρ inp e p res evs) : res = .fail → ∃ k, FailN G k e p := by
  induction h with
  | dot_fail | chr_fail | rng_fail | str_fail | pred_fail | inl | ualt | peekFor_fail
  | peekNot_fail | plus_fail =>
    intro _
    exact ⟨0, .leaf rfl⟩
  | name hb _ ih =>
    intro h
    obtain ⟨k, hk⟩ := ih h
    exact ⟨k + 1, .name hb hk⟩
  | seq_fail _ ih =>
    intro h
    obtain ⟨k, hk⟩ := ih h
    exact ⟨k + 1, .seq_hd hk⟩
  | seq_ok_fail _ _ _ ih2 =>
    intro h
    obtain ⟨k, hk⟩ := ih2 h
    exact ⟨k + 1, .seq_tl hk⟩
  | alt_last _ ih =>
    intro h
    obtain ⟨k, hk⟩ := ih h
    exact ⟨k + 1, .alt_last hk⟩
  | alt_next _ _ ih1 ih2 =>
    intro h
    obtain ⟨k1, hk1⟩ := ih1 rfl
    obtain ⟨k2, hk2⟩ := ih2 h
    exact ⟨max k1 k2 + 1, .alt_next (hk1.mono (Nat.le_max_left ..)) (hk2.mono (Nat.le_max_right ..))⟩
  | push_fail _ _ ih =>
    intro h
    obtain ⟨k, hk⟩ := ih h
    exact ⟨k + 1, .push hk⟩
  | ipush_fail _ _ ih =>
    intro h
    obtain ⟨k, hk⟩ := ih h
    exact ⟨k + 1, .ipush hk⟩
  | _ =>
    intro h
    cases h

theorem casF_leaf {G : Grammar} {fuel vis e} (hl : e.leafFail = true) (hp : e.plainS = true) :
    casF G fuel vis e = false := by
  cases fuel with
  | zero => rfl
  | succ f =>
    cases e with
    | inl => simp [Expr.plainS] at hp
    | dot | chr | rng | str | pred | ualt | peekFor | peekNot | plus => rfl
    | _ => simp [Expr.leafFail] at hl

/-! ### Soundness for every height bound -/

theorem casF_sound_aux {G : Grammar} (hG : G.plainS) : ∀ k fuel vis e, e.plainS = true →
    casF G fuel vis e = true → (∀ m ∈ vis, ∀ p, ¬ FailN G k (.name m) p) →
    ∀ p, ¬ FailN G k e p := by
  intro k
  induction k with
  | zero =>
    intro fuel vis e hp hc _ p hF
    cases hF with
    | leaf hl => rw [casF_leaf hl hp] at hc; cases hc
  | succ k ih =>
    intro fuel vis e hp hc hvis p hF
    have hvis' : ∀ m ∈ vis, ∀ p, ¬ FailN G k (.name m) p := fun m hm p h => hvis m hm p h.succ
    cases fuel with
    | zero => simp [casF] at hc
    | succ f =>
      cases hF with
      | leaf hl => rw [casF_leaf hl hp] at hc; cases hc
      | @name _ n b _ hb hF' =>
        simp only [casF, hb] at hc
        by_cases hv : vis.contains n = true
        · exact hvis n (by simpa using hv) p (.name hb hF')
        · simp only [hv] at hc
          -- the body was analysed with `n` put on `vis`; what `vis` promises of `n` at height `k`
          -- is this very statement at height `k` for `.name n` with the old `vis` — the goal is at
          -- `k + 1`, so the circle is broken by the height
          refine ih f (n :: vis) b (hG n b hb) (by simpa using hc) ?_ p hF'
          intro m hm p' hF''
          cases hm with
          | head =>
            have hc' : casF G (f + 1) vis (.name n) = true := by
              simp only [casF, hb, hv]; simpa using hc
            exact ih (f + 1) vis (.name n) rfl hc' hvis' p' hF''
          | tail _ hm' => exact hvis' m hm' p' hF''
      | @seq_hd _ e es _ hF' =>
        simp only [casF, List.all_cons, Bool.and_eq_true] at hc
        simp only [Expr.plainS, plainSL, Bool.and_eq_true] at hp
        exact ih f vis e hp.1 hc.1 hvis' p hF'
      | @seq_tl _ e es _ p1 hF' =>
        simp only [casF, List.all_cons, Bool.and_eq_true] at hc
        simp only [Expr.plainS, plainSL, Bool.and_eq_true] at hp
        have hc' : casF G (f + 1) vis (.seq es) = true := by simp only [casF]; exact hc.2
        exact ih (f + 1) vis (.seq es) (by simp only [Expr.plainS]; exact hp.2) hc' hvis' p1 hF'
      | @alt_last _ e _ hF' =>
        simp only [casF, List.any_cons, List.any_nil, Bool.or_false] at hc
        simp only [Expr.plainS, plainSL, Bool.and_eq_true] at hp
        exact ih f vis e hp.1 hc hvis' p hF'
      | @alt_next _ e e' es _ hF1 hF2 =>
        simp only [casF] at hc
        rw [List.any_cons, Bool.or_eq_true] at hc
        simp only [Expr.plainS] at hp
        rw [plainSL, Bool.and_eq_true] at hp
        cases hc with
        | inl h1 => exact ih f vis e hp.1 h1 hvis' p hF1
        | inr h2 =>
          have hc' : casF G (f + 1) vis (.alt (e' :: es)) = true := by simp only [casF]; exact h2
          exact ih (f + 1) vis (.alt (e' :: es)) (by simp only [Expr.plainS]; exact hp.2) hc' hvis'
            p hF2
      | @push _ e r _ hF' =>
        simp only [casF] at hc
        simp only [Expr.plainS] at hp
        exact ih f vis e hp hc hvis' p hF'
      | @ipush _ e r _ hF' =>
        simp only [casF] at hc
        simp only [Expr.plainS] at hp
        exact ih f vis e hp hc hvis' p hF'

theorem casF_sound {G : Grammar} {ρ : String → Nat → Bool} {inp : List Sym} (hG : G.plainS)
    {fuel e} (hp : e.plainS = true) (hc : casF G fuel [] e = true) :
    ∀ p evs, ¬ Eval G ρ inp e p .fail evs := by
  intro p evs h
  obtain ⟨k, hk⟩ := h.failN rfl
  exact casF_sound_aux hG k fuel [] e hp hc (fun m hm => by cases hm) p hk

/-- Also in a grammar with `-switch` nodes. -/
theorem alwaysSucceeds_soundS {G : Grammar} {ρ : String → Nat → Bool} {inp : List Sym} {n : String}
    (hG : G.plainS) (h : alwaysSucceeds G n = true) :
    ∀ p evs, ¬ Eval G ρ inp (.name n) p .fail evs := by
  intro p evs hE
  unfold alwaysSucceeds at h
  obtain ⟨b, hb, hE'⟩ := hE.name_inv
  rw [hb] at h
  exact casF_sound hG (hG n _ hb) h p evs hE'

/-- If `CheckAlwaysSucceeds` answers `true` for rule `n`, a reference to `n` never fails. -/
theorem alwaysSucceeds_sound {G : Grammar} {ρ : String → Nat → Bool} {inp : List Sym} {n : String}
    (hG : G.plain) (h : alwaysSucceeds G n = true) :
    ∀ p evs, ¬ Eval G ρ inp (.name n) p .fail evs :=
  alwaysSucceeds_soundS hG.plainS h

/-! ### Non-vacuity: `A <- 'x' / A?`, `B <- A 'y'`, `C <- C .*` -/

def casExG : Grammar :=
  ⟨[⟨"A", 0, .alt [.chr 120, .query (.name "A")]⟩, ⟨"B", 1, .seq [.name "A", .chr 121]⟩,
    ⟨"C", 2, .seq [.name "C", .star .dot]⟩]⟩

example : alwaysSucceeds casExG "A" = true := by decide
example : alwaysSucceeds casExG "B" = false := by decide
/-- The coinductive shortcut in action: `C <- C .*` is answered `true`; it has no derivation at
    all, in particular no failing one. -/
example : alwaysSucceeds casExG "C" = true := by decide

theorem casExG_plain : casExG.plain := Grammar.plain_of_all (by decide)

example (ρ : String → Nat → Bool) (inp : List Sym) (p : Nat) (evs : List Token) :
    ¬ Eval casExG ρ inp (.name "A") p .fail evs :=
  alwaysSucceeds_sound casExG_plain (by decide) p evs

end PegVerif

#print axioms PegVerif.alwaysSucceeds_sound
#print axioms PegVerif.alwaysSucceeds_soundS
