import PegVerif.Proofs.RefineDefs
/-
  The refinement theorem is stated once for every way of emitting (`Mode`): with token buffer and
  memo table, or with inline actions (`-noast`); with or without `-switch` nodes (`ua`).  A mode
  says what an attempt does to the closure state; the induction over the derivation uses only the
  laws of `Mode`, and a mode supplies the cases of the nodes that touch the state (`Cases`,
  Refine.lean).  `ua = false` serves `RN_all` alone: its precondition `PreN` does not assume `SUniq`
  of the code, which only a `-switch` node needs (`PreG.suniq`).

  `GoodG M ua … e p res evs` is stated backwards along the continuation (`Steps`): whatever the
  machine returns after the code of `e`, it returns from before it.  So there is no fuel arithmetic.

  What a new way of emitting owes, in the order of the files:
   1. a `Mode` (below): four relations, ten laws.  `Inv` holds what must be true of a state for an
      attempt to start (and what `Ko` needs of the entry state), `Ok`/`Ko` what an attempt does to
      it; mark it `@[reducible]` so that `⟨…⟩` and `simp` see through `M.Ok`.  Each law about
      `Inv`, `Ok`, `Ko` is used exactly once, in the composition lemmas of this file (`SuccG.trans` …
      `FailedG.restore`), and the cases use only those lemmas; the laws about `Saved` are used where
      a slot is saved or restored (`saved_after`, `FailedG.restore`, the ordered choice).
   2. the cases of the nodes that touch the state (RefineCases.lean): `<e>` and the implicit push of a
      rule through `goodG_wrap_ok`, an action rule through `goodG_emit`, and a lemma for `!{…}`.
   3. the shape of an emitted rule function (`ruleFunc_ast`, `ruleFunc_noast`) and the callee lemma:
      a run of the function from a state with `Inv` exists and is a `RuleG M` — that is the `hcallee`
      hypothesis of `goodG_call`.
   4. a world: what is assumed of the program, with `FuncOf` for each emitted function (`World`,
      `WorldNG`), and from it the `Cases` instance (Refine.lean; `astCases`, `noastCases`).
   5. `RG_all` then gives the theorem; the rule-level statement is the callee lemma at the body's
      `GoodG`, every run has it by `Exec.all_of_ex`, and RunFacts.lean reads `RuleG M` for the
      property files (`Verdict` in any mode; what else a run shows is the mode's `Ok`).
-/
namespace PegVerif

/-- What a successful (`Ok`) or failed (`Ko`) attempt does to the closure state, as far as one way
    of emitting looks at it; the position is prescribed separately.  `Ko` describes the state in
    which control reaches the failure label, before the restore there. -/
structure Mode where
  Inv : St → Prop
  /-- entry state, exit state, the tokens of the derivation, every attempted token -/
  Ok : St → St → List Token → List Token → Prop
  Ko : St → St → List Token → Prop
  /-- the pair restores entry state `s` (all of `(position, tokenIndex)` with a token buffer, only
      the position under `-noast`, whose `restore` nobody observes beyond that) -/
  Saved : Nat × Nat → St → Prop
  saved_mk : ∀ s, Saved (s.pos, s.ti) s
  saved_pos : ∀ {v s}, Saved v s → v.1 = s.pos
  /-- after `restore n` slot `n` still describes the state: the next alternative of a choice
      restores from the same slot -/
  saved_self : ∀ v (s : St), Saved v { s with pos := v.1, ti := v.2 }
  ok_move : ∀ {s} (p' : Nat), Inv s → Ok s { s with pos := p' } [] []
  ko_refl : ∀ {s}, Inv s → Ko s s []
  ok_inv : ∀ {s s' t e}, Ok s s' t e → Inv s'
  ok_trans : ∀ {s s1 s2 t1 t2 e1 e2}, Ok s s1 t1 e1 → Ok s1 s2 t2 e2 → Ok s s2 (t1 ++ t2) (e1 ++ e2)
  /-- `Ok s s1` says nothing of `s` alone, and with a token buffer it yields `Ko s _` only if the
      entry `tokenIndex` lies inside the buffer: hence `Inv s`, here and in `ok_drop` -/
  ok_ko : ∀ {s s1 s2 t1 e1 e2}, Inv s → Ok s s1 t1 e1 → Ko s1 s2 e2 → Ko s s2 (e1 ++ e2)
  /-- a success that is going to be undone (lookahead) is as good as a failure -/
  ok_drop : ∀ {s s1 t e}, Inv s → Ok s s1 t e → Ko s s1 e
  ko_restore : ∀ {s s2 e v}, Ko s s2 e → Saved v s → Ok s { s2 with pos := v.1, ti := v.2 } [] e

variable (M : Mode)

/-- Where an expression may start: the code `code` it sits in has unique labels and every jump target
    is marked used (so its label is printed); the state `s` stands at `p` inside the input and
    satisfies the mode's invariant. -/
structure PreG (ua : Bool) (env : CEnv) (inp : List Sym) (code : Code) (s : St) (p : Nat) : Prop where
  uniq : Uniq code
  suniq : ua = true → SUniq code
  used : ∀ l ∈ jumps code, env.used l = true
  pos : s.pos = p
  ple : p ≤ inp.length
  inv : M.Inv s

/-- The expression matched up to `p'`.  `lbl` is the label counter at which it was compiled: its own
    saves use slots from `lbl` on, so the frame slots below `lbl` (those of enclosing constructs)
    must come out as they went in. -/
structure SuccG (lbl : Nat) (s : St) (f : Frame) (s' : St) (f' : Frame) (p' : Nat)
    (toks evs : List Token) : Prop where
  pos : s'.pos = p'
  ok : M.Ok s s' toks evs
  /-- the saves of enclosing constructs are intact -/
  frame : ∀ n, n < lbl → f' n = f n

/-- Control has reached the failure label; position and `tokenIndex` are arbitrary, the `restore`
    there sets them (`FailedG.restore`). -/
structure FailedG (lbl : Nat) (s : St) (f : Frame) (s'' : St) (f'' : Frame) (evs : List Token) : Prop where
  ko : M.Ko s s'' evs
  frame : ∀ n, n < lbl → f'' n = f n

/-! ### The statement about one emitted rule function

  The outcome `res` without case split, so that the statement is one for success and failure. -/

def Res.okB : Res → Bool
  | .ok _ _ => true
  | .fail => false

def Res.endPos (p : Nat) : Res → Nat
  | .ok p' _ => p'
  | .fail => p

def Res.toks : Res → List Token
  | .ok _ f => postorderL f
  | .fail => []

/-- Verdict and end position that the outcome `res` of a rule entered at `p` prescribes, in either
    mode: a failure leaves the parser at `p`. -/
structure Verdict (res : Res) (p : Nat) (o : Outcome) (s' : St) : Prop where
  out : o = .ret res.okB
  pos : s'.pos = res.endPos p

/-- What a run of the emitted function of a rule, entered at `p` in state `s`, has to be when the
    semantics assigns the rule the outcome `(res, evs)`: the verdict, and the mode's `Ok` with the
    tokens of the outcome — a failure is a success that consumed nothing and recorded nothing.
    `RuleSpec` and `RuleSpecN` are this at the two modes (`RuleSpec.obs`, `ruleSpecN_iff`). -/
structure RuleG (s : St) (p : Nat) (res : Res) (evs : List Token) (o : Outcome) (s' : St) : Prop
    extends Verdict res p o s' where
  ok : M.Ok s s' res.toks evs

section
variable (ua : Bool) (P : Program) (cfg : Cfg) (env : CEnv) (inp : List Sym)

/-- The emitted code of `e` refines the outcome `res` of the PEG semantics at `p`, for every
    setting of the `parentDetect`/`parentMultipleKey` flags whose elided tests would pass (`Lead`).
    `ko ∈ jumps …` in the `.fail` clause is what makes the failure label findable: a jump in the code
    → `PreG.used` → the label is printed → `CodeAt.label` finds it. -/
def GoodG (e : Expr) (p : Nat) (res : Res) (evs : List Token) : Prop :=
  ∀ (ko : Nat) (pd pmk : Bool) (st : CSt) (code : Code) (pc : Nat) (s : St) (f : Frame),
    CodeAt code pc (compile env e ko pd pmk st).code → PreG M ua env inp code s p →
    Lead inp p pd pmk e →
    match res with
    | .ok p' forest => ∃ s' f', SuccG M st.label s f s' f' p' (postorderL forest) evs ∧
        Steps P cfg inp code pc s f (pc + (compile env e ko pd pmk st).code.length) s' f'
    | .fail => ∃ s'' f'', FailedG M st.label s f s'' f'' evs ∧
        ko ∈ jumps (compile env e ko pd pmk st).code ∧
        ∀ pcko, labelPos code ko = some pcko → Steps P cfg inp code pc s f pcko s'' f''

/-- Tail of an ordered choice: `compileAlt es ok ko` followed by the `}` and the `ok` label; slot
    `ok` holds the choice's entry state.  Both exits (fall through / `goto ok`) reach the end. -/
def GoodAltG (es : List Expr) (p : Nat) (res : Res) (evs : List Token) : Prop :=
  ∀ (ok ko : Nat) (pd pmk : Bool) (st : CSt) (code : Code) (pc : Nat) (s : St) (f : Frame),
    CodeAt code pc ((compileAlt env es ok ko pd pmk st).code ++ [Instr.be] ++ env.lbl ok) →
    PreG M ua env inp code s p → ok < st.label → M.Saved (f ok) s →
    LeadL inp p pd pmk es →
    match res with
    | .ok p' forest => ∃ s' f', SuccG M st.label s f s' f' p' (postorderL forest) evs ∧
        Steps P cfg inp code pc s f
          (pc + (compileAlt env es ok ko pd pmk st).code.length + 1 + (env.lbl ok).length) s' f'
    | .fail => ∃ s'' f'', FailedG M st.label s f s'' f'' evs ∧
        ko ∈ jumps (compileAlt env es ok ko pd pmk st).code ∧
        ∀ pcko, labelPos code ko = some pcko → Steps P cfg inp code pc s f pcko s'' f''

/-- The loop of `e*` (also the second half of `e+`), with its labels anywhere below the body's.
    The second conjunct says that the loop leaves every frame slot below the body's labels alone
    except its own save `out`.  No case reads it, and `min again out` is `again` wherever a loop is
    emitted: both are here because `GoodLoopN` / `GoodLoopNS`, which are this statement at
    `noastMode`, have them. -/
def GoodLoopG (e : Expr) (p : Nat) (res : Res) (evs : List Token) : Prop :=
  ∀ (again out : Nat) (stb : CSt) (code : Code) (pc : Nat) (s : St) (f : Frame),
    CodeAt code pc (loopCode env e again out stb) → PreG M ua env inp code s p →
    again < stb.label → out < stb.label →
    match res with
    | .ok p' forest => ∃ s' f', SuccG M (min again out) s f s' f' p' (postorderL forest) evs ∧
        (∀ n, n < stb.label → n ≠ out → f' n = f n) ∧
        Steps P cfg inp code pc s f (pc + (loopCode env e again out stb).length) s' f'
    | .fail => False

end

/-! ### Straight-line code runs by computation -/

/-- The effect of a run of instructions that all fall through. -/
def runs (cfg : Cfg) (inp : List Sym) : Code → St → Frame → Option (St × Frame)
  | [], s, f => some (s, f)
  | i :: c, s, f =>
    match stepLocal cfg inp i s f with
    | .next s' f' => runs cfg inp c s' f'
    | _ => none

theorem CodeAt.runs {P : Program} {cfg : Cfg} {inp : List Sym} {code : Code} :
    ∀ {c : Code} {pc : Nat} {s : St} {f : Frame} {s' : St} {f' : Frame}, CodeAt code pc c →
      runs cfg inp c s f = some (s', f') → Steps P cfg inp code pc s f (pc + c.length) s' f'
  | [], pc, s, f, s', f', _, h => by cases h; exact Steps.refl
  | i :: c, pc, s, f, s', f', hc, h => by
    obtain ⟨hi, hc'⟩ := hc.head
    simp only [PegVerif.runs] at h
    split at h
    · next s1 f1 hs =>
      exact ((Steps.next hi hs).trans (hc'.runs h)).cast (by simp; omega)
    · cases h

theorem runs_lbl {cfg : Cfg} {inp : List Sym} (env : CEnv) (l : Nat) (s : St) (f : Frame) :
    runs cfg inp (env.lbl l) s f = some (s, f) := by
  by_cases hu : env.used l = true <;> simp [CEnv.lbl, hu, runs, stepLocal]

variable {M}

/-! ### Composition of postconditions -/

theorem SuccG.inv {lbl s f s' f' p' t e} (h : SuccG M lbl s f s' f' p' t e) : M.Inv s' := M.ok_inv h.ok

theorem SuccG.move {lbl s f} (p' : Nat) (h : M.Inv s) : SuccG M lbl s f { s with pos := p' } f p' [] [] :=
  ⟨rfl, M.ok_move p' h, fun _ _ => rfl⟩

theorem SuccG.refl {lbl s f} (h : M.Inv s) : SuccG M lbl s f s f s.pos [] [] := SuccG.move s.pos h

theorem FailedG.refl {lbl s f} (h : M.Inv s) : FailedG M lbl s f s f [] := ⟨M.ko_refl h, fun _ _ => rfl⟩

theorem SuccG.trans {lbl lbl1 s f s1 f1 s2 f2 p1 p2 t1 t2 e1 e2}
    (h1 : SuccG M lbl s f s1 f1 p1 t1 e1) (h2 : SuccG M lbl1 s1 f1 s2 f2 p2 t2 e2) (hl : lbl ≤ lbl1) :
    SuccG M lbl s f s2 f2 p2 (t1 ++ t2) (e1 ++ e2) :=
  ⟨h2.pos, M.ok_trans h1.ok h2.ok, fun n hn => by rw [h2.frame n (by omega), h1.frame n hn]⟩

theorem SuccG.trans_failed {lbl lbl1 s f s1 f1 s2 f2 p1 t1 e1 e2} (hi : M.Inv s)
    (h1 : SuccG M lbl s f s1 f1 p1 t1 e1) (h2 : FailedG M lbl1 s1 f1 s2 f2 e2) (hl : lbl ≤ lbl1) :
    FailedG M lbl s f s2 f2 (e1 ++ e2) :=
  ⟨M.ok_ko hi h1.ok h2.ko, fun n hn => by rw [h2.frame n (by omega), h1.frame n hn]⟩

theorem SuccG.drop {lbl s f s1 f1 p1 t e} (hi : M.Inv s) (h : SuccG M lbl s f s1 f1 p1 t e) :
    FailedG M lbl s f s1 f1 e := ⟨M.ok_drop hi h.ok, h.frame⟩

/-- Control is at a failure label whose slot `n` holds the entry state: the `restore n` there. -/
theorem FailedG.restore {lbl s f s2 f2 e} (h : FailedG M lbl s f s2 f2 e) {v} (hv : M.Saved v s) :
    SuccG M lbl s f { s2 with pos := v.1, ti := v.2 } f2 s.pos [] e :=
  ⟨M.saved_pos hv, M.ko_restore h.ko hv, h.frame⟩

/-- The attempt started after a save into slot `lbl`, the construct's own. -/
theorem SuccG.unset {lbl lbl1 s f v s' f' p' t e} (h : SuccG M lbl1 s (f.set lbl v) s' f' p' t e)
    (hl : lbl ≤ lbl1) : SuccG M lbl s f s' f' p' t e :=
  ⟨h.pos, h.ok, fun n hn => by rw [h.frame n (by omega)]; simp [Frame.set]; omega⟩

theorem FailedG.unset {lbl lbl1 s f v s' f' e} (h : FailedG M lbl1 s (f.set lbl v) s' f' e)
    (hl : lbl ≤ lbl1) : FailedG M lbl s f s' f' e :=
  ⟨h.ko, fun n hn => by rw [h.frame n (by omega)]; simp [Frame.set]; omega⟩

theorem SuccG.weaken {lbl lbl1 s f s' f' p' t e} (h : SuccG M lbl1 s f s' f' p' t e) (hl : lbl ≤ lbl1) :
    SuccG M lbl s f s' f' p' t e := ⟨h.pos, h.ok, fun n hn => h.frame n (by omega)⟩

theorem FailedG.weaken {lbl lbl1 s f s' f' e} (h : FailedG M lbl1 s f s' f' e) (hl : lbl ≤ lbl1) :
    FailedG M lbl s f s' f' e := ⟨h.ko, fun n hn => h.frame n (by omega)⟩

variable {ua : Bool} {env : CEnv} {inp : List Sym}

theorem PreG.usedIn {code s p pc c l} (hp : PreG M ua env inp code s p) (h : CodeAt code pc c)
    (hl : l ∈ jumps c) : env.used l = true :=
  hp.used l (jumps_sub_of_codeAt h l hl)

theorem PreG.move {code s p s1 p1} (hp : PreG M ua env inp code s p) (hpos : s1.pos = p1)
    (hple : p1 ≤ inp.length) (hi : M.Inv s1) : PreG M ua env inp code s1 p1 :=
  ⟨hp.uniq, hp.suniq, hp.used, hpos, hple, hi⟩

theorem PreG.after {G : Grammar} {ρ code s p e p1 f1 evs lbl f s1 fr1 t}
    (hp : PreG M ua env inp code s p) (hev : Eval G ρ inp e p (.ok p1 f1) evs)
    (hS : SuccG M lbl s f s1 fr1 p1 t evs) : PreG M ua env inp code s1 p1 :=
  hp.move hS.pos (Eval_bound hev hp.ple).2 hS.inv

end PegVerif
