import PegVerif.Proofs.RefineNoastDefs
import PegVerif.Proofs.WorldLemmas
/-
  `-noast`: the decision procedure `Expr.okNB` (`Model/Checkers.lean`; the ties evaluate it) is sound
  for the fragment `Expr.okN`, and the program emitted with `o.ast = false` meets the structural
  assumptions `WorldN` of RN.
-/
namespace PegVerif
open Noast

theorem Expr.okNB_sound_all (K : NKit) :
    (∀ e : Expr, e.okNB K = true → e.okN K) ∧ (∀ es : List Expr, okNLB K es = true → okNL K es) := by
  apply Expr.okN.mutual_induct
  -- the implicit push: `okNB` matches on the operand where `okN` has two implications
  case case19 =>
    intro e r ih h
    simp only [Expr.okNB, Bool.and_eq_true, bne_iff_ne, ne_eq] at h
    obtain ⟨⟨hr, hm⟩, he⟩ := h
    refine ⟨hr, ?_, ?_, ih he⟩
    · intro c hc; subst hc; simpa using hm
    · intro hna; cases e <;> simp_all [Expr.isAct]
  all_goals intros
  all_goals simp_all only [Expr.okNB, Expr.okN, okNLB, okNL, Bool.and_eq_true, and_self, beq_iff_eq,
    Bool.not_eq_eq_eq_not, Bool.not_true]

theorem Expr.okNB_sound (K : NKit) : ∀ e : Expr, e.okNB K = true → e.okN K :=
  (Expr.okNB_sound_all K).1

theorem okNLB_sound (K : NKit) : ∀ es : List Expr, okNLB K es = true → okNL K es :=
  (Expr.okNB_sound_all K).2

theorem GrammarOKN.rule {K : NKit} {G : Grammar} (h : GrammarOKN K G = true) {n : String} {r : Rule}
    (hf : G.find n = some r) : r.body.okN K := by
  simp only [GrammarOKN, List.all_eq_true] at h
  exact Expr.okNB_sound K _ (h r (Grammar.find_mem hf))

/-- Read off `compileAll_find` directly: `WorldN` asks `Expr.fine`, which `compileAll_worldNSGen`
    (WorldNoastS.lean) does not give. -/
theorem compileAll_worldN {K : NKit} {G : Grammar} {o : Opts} {cfg : Cfg} {inp : List Sym}
    (_hsw : o.switch = false) (hinl : o.inline = false) (hast : o.ast = false)
    (hcfg : cfg.ast = false)
    (hinp : ∀ c ∈ inp, c ≠ END)
    (hG : GrammarOK G) (hN : GrammarOKN K G = true)
    (halways : ∀ n, alwaysSucceeds G n = true →
      ∀ p evs, ¬ Eval G cfg.rho inp (.name n) p .fail evs) :
    WorldN K (compileAll o G) cfg (realEnv o G) G inp where
  ast := hcfg
  envAst := hast
  inpOK := hinp
  always := halways
  rules := by
    intro n cr hfind
    obtain ⟨r, kr, stb, hE⟩ := compileAll_find hfind
    have hb := hE.body
    have hcr := hE.code
    have hf := GrammarOK.fine hinl hG hE.find hE.slot
    rw [expandG_noinline hinl] at hb
    rw [bodyOf_noinline hinl] at hb hcr hf
    exact ⟨r, _, kr, stb, hb, hcr, hE.lt, hE.uniq, hE.used, hf, GrammarOKN.rule hN hE.find⟩

theorem compileAll_worldN' {K : NKit} {G : Grammar} {o : Opts} {cfg : Cfg} {inp : List Sym}
    (hsw : o.switch = false) (hinl : o.inline = false) (hast : o.ast = false)
    (hcfg : cfg.ast = false)
    (hinp : ∀ c ∈ inp, c ≠ END)
    (hG : GrammarOK G = true) (hN : GrammarOKN K G = true) (hplain : G.plain) :
    WorldN K (compileAll o G) cfg (realEnv o G) G inp :=
  compileAll_worldN hsw hinl hast hcfg hinp hG hN (fun _ h => alwaysSucceeds_sound hplain h)

end PegVerif

#print axioms PegVerif.compileAll_worldN
