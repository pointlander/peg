import PegVerif.Model.SafeDef
import PegVerif.Proofs.WorldInline
import PegVerif.Proofs.WorldNoastS
/-
  `-inline -noast`, with or without `-switch` nodes: the emitted program meets `WorldNS` with respect
  to the EXPANDED grammar `expandG o G`, under the decidable `GrammarOKNIS K G` (SafeDef.lean).  That
  checker is written for speed (shared reference counts, a one-pass table of the rules that get a
  function); once these are identified with the model's it is `GrammarOKIS` plus `okNB` on the
  expanded bodies (`GrammarOKNIS_iff`).  Both fragments descend through `inl`, and RNS handles
  `inl`.  `WorldNS` has neither `idInj` nor the `ipush` shape of `World` (no memo table in `-noast`
  code), so `LinkedOK` is not needed.
-/
namespace PegVerif
open Noast

theorem rulesCountWith_eq (G : Grammar) : rulesCountWith G (reachedRules G) = rulesCount G := rfl

/-! ### The table `inlineFuncs` is "has a function in the emitted program" -/

/-- Under `-inline` the slot of a rule depends on the label counter only through "is it 0".  The
    right side is the call in `inlineFuncs` (`Model/SafeDef.lean`), whose flag `z` is
    `st.label == 0`. -/
theorem slotOf_inline {o : Opts} (hinl : o.inline = true) (cnt : String → Nat) (r : Rule) (ko : Nat) :
    slotOf o cnt r ko = slotOf inlNOpts cnt r (if (ko == 0) = true then 0 else 1) := by
  unfold slotOf
  rw [hinl]
  by_cases h : ko = 0
  · subst h; rfl
  · have : (ko == 0) = false := by simpa using h
    simp [this, inlNOpts, h]

/-- Every slot but `undefinedNil` increments the label counter. -/
theorem slotSt_label_zero (o : Opts) (cnt : String → Nat) (bodyOf : Rule → Expr) (r : Rule) (st : CSt) :
    ((slotSt o cnt bodyOf r st).label == 0) =
      (match slotOf o cnt r st.label with
       | .undefinedNil => st.label == 0
       | _ => false) := by
  unfold slotSt
  cases slotOf o cnt r st.label <;> simp [CSt.add]

theorem hasFuncOf_cons (m : String) (b : Bool) (tbl : List (String × Bool)) (n : String) :
    hasFuncOf ((m, b) :: tbl) n = if m == n then b else hasFuncOf tbl n := by
  unfold hasFuncOf
  rw [List.find?_cons]
  cases m == n <;> rfl

/-- Of the counters `inlineFuncs` tracks only whether the label counter is still 0: under `-inline`
    that is all `slotOf` reads of it (`slotOf_inline`), and `slotSt_label_zero` says what each slot
    does to it.  By cases on the slot of the first rule. -/
theorem compileRules_find_isSome_inline {o : Opts} (hinl : o.inline = true) (env : CEnv)
    (cnt : String → Nat) (bodyOf : Rule → Expr) (n : String) : ∀ (rules : List Rule) (st : CSt),
    ((compileRules o env cnt bodyOf rules st).find n).isSome =
      hasFuncOf (inlineFuncs cnt rules (st.label == 0)) n
  | [], _ => rfl
  | r :: rs, st => by
    have ih := compileRules_find_isSome_inline hinl env cnt bodyOf n rs (slotSt o cnt bodyOf r st)
    rw [slotSt_label_zero] at ih
    rw [compileRules_cons, Program.find_cons, inlineFuncs, ← slotOf_inline hinl, slotCode]
    cases hs : slotOf o cnt r st.label
    all_goals
      simp only [hs] at ih
      simp only [hasFuncOf_cons, apply_ite Option.isSome, ih]
      rfl

/-- The `d` of `GrammarOKNIS` is `hasFuncI`. -/
theorem hasFuncOf_inlineFuncs (G : Grammar) :
    hasFuncOf (inlineFuncs (rulesCount G) G.rules true) = hasFuncI G := by
  funext n
  unfold hasFuncI
  rw [compileAll_eq, compileRules_find_isSome_inline (o := inlOpts) rfl]
  rfl

theorem GrammarOKNIS_iff {K : NKit} {G : Grammar} :
    GrammarOKNIS K G = true ↔
      (GrammarOKIS G = true ∧
        G.rules.all (fun r => match G.find r.name with
          | some r' => !hasFuncI G r'.name || (bodyOf inlOpts G r').okNB K
          | none => true) = true) := by
  simp only [GrammarOKNIS, rulesCountWith_eq, hasFuncOf_inlineFuncs, GrammarOKIS, ruleOKIS,
    bodyOf_inlOpts, List.all_eq_true, ← forall_and]
  refine forall_congr' fun r => imp_congr_right fun _ => ?_
  cases G.find r.name with
  | none => simp
  | some r' => simp [or_and_left]

/-- Option sets `in` and, with `-switch` nodes in `G`, `isn`; `halways` and `o.switch` as in
    `compileAll_world_inlineS`. -/
theorem compileAll_worldNS_inline {K : NKit} {G : Grammar} {o : Opts} {cfg : Cfg} {inp : List Sym}
    (hinl : o.inline = true) (hast : o.ast = false)
    (hcfg : cfg.ast = false)
    (hinp : ∀ c ∈ inp, c ≠ END)
    (hG : GrammarOKNIS K G = true)
    (halways : ∀ n, alwaysSucceeds G n = true →
      ∀ p evs, ¬ Eval (expandG o G) cfg.rho inp (.name n) p .fail evs) :
    WorldNS K (compileAll o G) cfg (realEnv o G) (expandG o G) inp := by
  obtain ⟨hIS, hN⟩ := GrammarOKNIS_iff.mp hG
  refine compileAll_worldNSGen hast hcfg hinp (fun n r _ hr hs _ => ⟨GrammarOKIS.fineS hinl hIS hr hs, ?_⟩)
    halways
  rw [bodyOf_opts (o' := inlOpts) hinl]
  exact Expr.okNB_sound K _
    (by simpa [hasFuncI_of_find hinl hr hs] using Grammar.all_find hN hr)

theorem compileAll_worldNS_inline' {K : NKit} {G : Grammar} {o : Opts} {cfg : Cfg} {inp : List Sym}
    (hinl : o.inline = true) (hast : o.ast = false)
    (hcfg : cfg.ast = false)
    (hinp : ∀ c ∈ inp, c ≠ END)
    (hG : GrammarOKNIS K G = true) (hplain : G.plainS) :
    WorldNS K (compileAll o G) cfg (realEnv o G) (expandG o G) inp :=
  compileAll_worldNS_inline hinl hast hcfg hinp hG
    (fun _ h p evs hE => alwaysSucceeds_soundS hplain h p evs (Eval_expandG_rev hE))

theorem inline_noast_world (K : NKit) (G : Grammar) (o : Opts) (cfg : Cfg) (inp : List Sym)
    (hsafe : inlineNoastSafeK K G = true)
    (hinl : o.inline = true) (hast : o.ast = false) (hcfg : cfg.ast = false)
    (hinp : ∀ c ∈ inp, c ≠ END) :
    WorldNS K (compileAll o G) cfg (realEnv o G) (expandG o G) inp := by
  simp only [inlineNoastSafeK, Bool.and_eq_true] at hsafe
  exact compileAll_worldNS_inline' hinl hast hcfg hinp hsafe.1 (Grammar.plainS_of_all hsafe.2)

end PegVerif

#print axioms PegVerif.hasFuncOf_inlineFuncs
#print axioms PegVerif.compileAll_worldNS_inline
#print axioms PegVerif.compileAll_worldNS_inline'
#print axioms PegVerif.inline_noast_world
#print axioms PegVerif.GrammarOKNIS_iff
