import PegVerif.Proofs.CoreLemmas
import PegVerif.Proofs.RefineDefs
import PegVerif.Proofs.AlwaysLemmas
import PegVerif.Proofs.InlineLemmas
import PegVerif.Model.Checkers
/-
  `compileAll o G` meets the static assumptions of the refinement theorem (`World`).  The emission
  loop is read once, for any option set and any grammar (`compileAll_find`): a function is the
  `ruleFunc` of the body of the first rule of its name, its labels are distinct, and each of its
  jumps was recorded by the dry pass, because the two passes number alike and print the same jumps.
  A decidable checker then only has to put the emitted bodies into the fragment
  (`compileAll_worldGen`; `compileAll_world` is the instance for `GrammarOK`).  On the way, what
  `Program.find` and `Program.jumps` of the IR compute.
-/
namespace PegVerif

/-! ### The per-rule loop -/

/-- The `_rules` entry `compileRules` emits for `r` when the counters are `st`. -/
def slotCode (o : Opts) (env : CEnv) (cnt : String → Nat) (bodyOf : Rule → Expr) (r : Rule)
    (st : CSt) : Option Code :=
  match slotOf o cnt r st.label with
  | .func => some (ruleFunc env r (bodyOf r) st.label ⟨st.label + 1, st.sw⟩).1
  | _ => none

/-- The counters after the entry of `r`; a function advances them by what its body allocates
    (`compile_st`). -/
def slotSt (o : Opts) (cnt : String → Nat) (bodyOf : Rule → Expr) (r : Rule) (st : CSt) : CSt :=
  match slotOf o cnt r st.label with
  | .undefinedNil => st
  | .func => CSt.add ⟨st.label + 1, st.sw⟩ (bodyOf r).alloc
  | _ => ⟨st.label + 1, st.sw⟩

theorem compileRules_cons (o : Opts) (env : CEnv) (cnt : String → Nat) (bodyOf : Rule → Expr)
    (r : Rule) (rs : List Rule) (st : CSt) :
    compileRules o env cnt bodyOf (r :: rs) st =
      ⟨r.name, slotCode o env cnt bodyOf r st⟩ ::
        compileRules o env cnt bodyOf rs (slotSt o cnt bodyOf r st) := by
  rw [compileRules]; unfold slotCode slotSt
  cases slotOf o cnt r st.label <;> simp only [ruleFunc, compile_st]

/-- The counters with which the first rule named `n` is reached. -/
def entrySt (o : Opts) (cnt : String → Nat) (bodyOf : Rule → Expr) (n : String) :
    List Rule → CSt → CSt
  | [], st => st
  | r :: rs, st => if r.name == n then st else entrySt o cnt bodyOf n rs (slotSt o cnt bodyOf r st)

theorem Program.find_cons (rc : RuleCode) (P : Program) (n : String) :
    Program.find (rc :: P) n = if rc.name == n then rc.code else Program.find P n := by
  unfold Program.find
  simp only [List.find?_cons]
  cases h : rc.name == n <;> simp

/-- The per-rule loop in one equation.  The counters the rules before the entry leave (`entrySt`) do
    not depend on the environment. -/
theorem compileRules_find_eq (o : Opts) (env : CEnv) (cnt : String → Nat) (bodyOf : Rule → Expr)
    (n : String) : ∀ (rules : List Rule) (st : CSt),
    (compileRules o env cnt bodyOf rules st).find n =
      (rules.find? (fun r => r.name == n)).bind fun r =>
        slotCode o env cnt bodyOf r (entrySt o cnt bodyOf n rules st)
  | [], _ => rfl
  | r :: rs, st => by
    rw [compileRules_cons, Program.find_cons, List.find?_cons, entrySt]
    cases r.name == n
    · exact compileRules_find_eq o env cnt bodyOf n rs _
    · rfl

theorem Program.find_mem {P : Program} {n : String} {c : Code} (h : P.find n = some c) :
    ∃ rc ∈ P, rc.code = some c := by
  unfold Program.find at h
  split at h
  · next rc hrc => exact ⟨rc, List.mem_of_find?_eq_some hrc, h⟩
  · cases h

theorem Program.jumps_eq_flatMap (P : Program) :
    P.jumps = P.flatMap fun rc => (rc.code.map PegVerif.jumps).getD [] := by
  rw [List.flatMap_eq_foldl]
  unfold Program.jumps
  congr
  funext acc rc
  cases rc.code <;> simp

theorem Program.mem_jumps {P : Program} {l : Nat} :
    l ∈ P.jumps ↔ ∃ rc ∈ P, ∃ c, rc.code = some c ∧ l ∈ PegVerif.jumps c := by
  rw [Program.jumps_eq_flatMap, List.mem_flatMap]
  refine exists_congr fun rc => and_congr_right fun _ => ?_
  cases rc.code <;> simp

/-- `ko != 0`: the rule emitted with label 0 keeps its function even if it has exactly one
    reference. -/
theorem slotOf_func_iff {o : Opts} {cnt : String → Nat} {r : Rule} {ko : Nat} :
    slotOf o cnt r ko = .func ↔ r.body.isNil = false ∧ (cnt r.name == 0) = false ∧
      (o.inline && cnt r.name == 1 && ko != 0) = false := by
  unfold slotOf Expr.isNil
  split <;> split <;> simp_all

theorem slotCode_eq_some {o : Opts} {env : CEnv} {cnt : String → Nat} {bodyOf : Rule → Expr}
    {r : Rule} {st : CSt} {cr : Code} (h : slotCode o env cnt bodyOf r st = some cr) :
    slotOf o cnt r st.label = .func ∧
      cr = (ruleFunc env r (bodyOf r) st.label ⟨st.label + 1, st.sw⟩).1 := by
  unfold slotCode at h
  cases hs : slotOf o cnt r st.label <;> simp [hs] at h
  exact ⟨rfl, h.symm⟩

/-! ### The checker `GrammarOK` -/

/-- The checkers quantify over the rule `t.Rules[name]` returns for every name in the grammar; that
    covers the first rule of every name that has one. -/
theorem Grammar.all_find {G : Grammar} {p : Rule → Bool}
    (h : (G.rules.all fun r => match G.find r.name with | some r' => p r' | none => true) = true)
    {n : String} {r : Rule} (hf : G.find n = some r) : p r = true := by
  have := List.all_eq_true.mp h r (Grammar.find_mem hf)
  rwa [Grammar.find_name hf, hf] at this

theorem Grammar.all_find_imp {G : Grammar} {p q : Rule → Bool} (h : ∀ r, p r = true → q r = true)
    (hp : (G.rules.all fun r => match G.find r.name with | some r' => p r' | none => true) = true) :
    (G.rules.all fun r => match G.find r.name with | some r' => q r' | none => true) = true := by
  rw [List.all_eq_true] at hp ⊢
  intro r hr
  have := hp r hr
  cases hf : G.find r.name with
  | none => rfl
  | some r' => rw [hf] at this; exact h _ this

theorem okB_noUalt_all (d : String → Bool) :
    (∀ e : Expr, e.okB d = true → e.noUalt = true) ∧
    (∀ es : List Expr, okBL d es = true → noUaltL es = true) := by
  -- clause by clause; the induction principle of `fine` only supplies the case split over `Expr`
  -- and `List Expr` that all these recursions follow (likewise in the next lemma and in WorldSwitch)
  apply Expr.fine.mutual_induct
  all_goals intros
  all_goals simp_all only [Expr.okB, Expr.noUalt, okBL, noUaltL, Bool.and_eq_true, and_self,
    Bool.false_eq_true]

theorem okBL_noUaltL (d : String → Bool) : ∀ (es : List Expr), okBL d es = true → noUaltL es = true :=
  (okB_noUalt_all d).2

theorem okB_fine_all {P : Program} {d : String → Bool}
    (hd : ∀ n, d n = true → (P.find n).isSome = true) :
    (∀ e : Expr, e.okB d = true → e.fine P) ∧ (∀ es : List Expr, okBL d es = true → fineL P es) := by
  apply Expr.fine.mutual_induct
  all_goals intros
  all_goals simp_all only [Expr.okB, Expr.fine, okBL, fineL, Bool.and_eq_true, and_self,
    Bool.false_eq_true, bne_iff_ne, ne_eq, decide_eq_true_eq, not_false_eq_true]

theorem okB_fine {P : Program} {d : String → Bool}
    (hd : ∀ n, d n = true → (P.find n).isSome = true) : ∀ (e : Expr), e.okB d = true → e.fine P :=
  (okB_fine_all hd).1

theorem okBL_fineL {P : Program} {d : String → Bool}
    (hd : ∀ n, d n = true → (P.find n).isSome = true) : ∀ (es : List Expr), okBL d es = true → fineL P es :=
  (okB_fine_all hd).2

/-! ### `compileAll` -/

/-- The environment of `compileAll`'s dry pass: no label counts as used yet. -/
def dryEnv (o : Opts) (G : Grammar) : CEnv :=
  { ast := o.ast, dry := true, used := fun _ => false, always := alwaysSucceeds G }

/-- `labels[n] = true` after the dry pass. -/
def dryJumps (o : Opts) (G : Grammar) : List Nat :=
  (compileRules o (dryEnv o G) (rulesCount G) (bodyOf o G) G.rules ⟨0, 0⟩).jumps

/-- The environment of the real pass, whose output is `compileAll o G` (`compileAll_eq`): a label is
    printed iff the dry pass printed a jump to it.  Every `World` theorem is about this environment. -/
def realEnv (o : Opts) (G : Grammar) : CEnv :=
  { ast := o.ast, dry := false, used := fun n => (dryJumps o G).contains n,
    always := alwaysSucceeds G }

theorem compileAll_eq (o : Opts) (G : Grammar) :
    compileAll o G = compileRules o (realEnv o G) (rulesCount G) (bodyOf o G) G.rules ⟨0, 0⟩ := rfl

/-- `compileRules_find_eq` on the rules of a grammar, for either pass: the lookup is `G.find`. -/
theorem compileRules_find_G (o : Opts) (env : CEnv) (G : Grammar) (n : String) :
    (compileRules o env (rulesCount G) (bodyOf o G) G.rules ⟨0, 0⟩).find n =
      (G.find n).bind fun r => slotCode o env (rulesCount G) (bodyOf o G) r
        (entrySt o (rulesCount G) (bodyOf o G) n G.rules ⟨0, 0⟩) :=
  compileRules_find_eq o env (rulesCount G) (bodyOf o G) n G.rules ⟨0, 0⟩

theorem compileAll_hasFunc {o : Opts} {G : Grammar} (hinl : o.inline = false) (n : String)
    (h : hasFunc G n = true) : ((compileAll o G).find n).isSome = true := by
  unfold hasFunc at h
  rw [compileAll_eq, compileRules_find_G]
  cases hf : G.find n with
  | none => simp [hf] at h
  | some r =>
    simp only [hf, Bool.and_eq_true, Bool.not_eq_true', bne_iff_ne, ne_eq] at h
    have hslot : ∀ ko, slotOf o (rulesCount G) r ko = .func := fun ko =>
      slotOf_func_iff.mpr ⟨h.1, by simpa using h.2, by simp [hinl]⟩
    simp [slotCode, hslot]

theorem LinkedOK.shape {G : Grammar} (h : LinkedOK G = true) {n : String} {r : Rule}
    (hf : G.find n = some r) (hnil : r.body.isNil = false) : ∃ e, r.body = .ipush e n := by
  have hs : r.shaped = true := by
    simp only [LinkedOK, Bool.and_eq_true] at h
    exact List.all_eq_true.mp h.1 r (Grammar.find_mem hf)
  unfold Rule.shaped at hs
  cases hb : r.body <;> simp [hb, Expr.isNil] at hs hnil
  next e nm => exact ⟨e, by rw [hs, Grammar.find_name hf]⟩

theorem LinkedOK.idInj {G : Grammar} (h : LinkedOK G = true) {n1 n2 : String}
    (h1 : (G.find n1).isSome = true) (h2 : (G.find n2).isSome = true)
    (hid : G.idOf n1 = G.idOf n2) : n1 = n2 := by
  obtain ⟨r1, hf1⟩ := Option.isSome_iff_exists.mp h1
  obtain ⟨r2, hf2⟩ := Option.isSome_iff_exists.mp h2
  simp only [Grammar.idOf, hf1, hf2, Option.map_some, Option.getD_some] at hid
  simp only [LinkedOK, Bool.and_eq_true, decide_eq_true_eq] at h
  have := nodup_map_inj (·.id) G.rules h.2 r1 (Grammar.find_mem hf1) r2 (Grammar.find_mem hf2) hid
  rw [← Grammar.find_name hf1, ← Grammar.find_name hf2, this]

/-! ### The emitted program, for any option set -/

theorem expandG_idOf (o : Opts) (G : Grammar) (n : String) : (expandG o G).idOf n = G.idOf n := by
  unfold Grammar.idOf
  rw [expandG_find]
  cases G.find n <;> rfl

theorem GrammarOK.fine {o : Opts} {G : Grammar} (hinl : o.inline = false) (hG : GrammarOK G = true)
    {n : String} {r : Rule} {kr : Nat} (hr : G.find n = some r)
    (hslot : slotOf o (rulesCount G) r kr = .func) : (bodyOf o G r).fine (compileAll o G) := by
  obtain ⟨h1, h2, _⟩ := slotOf_func_iff.mp hslot
  rw [bodyOf_noinline hinl]
  exact okB_fine (compileAll_hasFunc hinl) _ (by simpa [ruleOK, h1, h2] using Grammar.all_find hG hr)

/-- `cr` is what the emission loop prints for the name `n`: the function of the first rule `r` of that
    name, with failure label `kr` and counters `stb`.  The part of `World.rules` (`WorldN`, `WorldNS`)
    that holds of every option set and every grammar. -/
structure EmittedFunc (o : Opts) (G : Grammar) (n : String) (cr : Code) (r : Rule) (kr : Nat)
    (stb : CSt) : Prop extends FuncOf (realEnv o G) cr r (bodyOf o G r) kr stb where
  find : G.find n = some r
  slot : slotOf o (rulesCount G) r kr = .func
  body : (expandG o G).body n = some (bodyOf o G r)

theorem compileAll_find {o : Opts} {G : Grammar} {n : String} {cr : Code}
    (h : (compileAll o G).find n = some cr) : ∃ r kr stb, EmittedFunc o G n cr r kr stb := by
  rw [compileAll_eq, compileRules_find_G] at h
  cases hr : G.find n with
  | none => rw [hr] at h; cases h
  | some r =>
    rw [hr] at h
    obtain ⟨hslot, hcr⟩ := slotCode_eq_some h
    have hbody : (expandG o G).body n = some (bodyOf o G r) := by rw [expandG_body, hr]; rfl
    refine ⟨r, _, _, ⟨hcr, Nat.lt_succ_self _,
      hcr ▸ ruleFunc_uniq _ _ _ _ _ (Nat.lt_succ_self _), fun l hl => ?_⟩, hr, hslot, hbody⟩
    -- the dry pass reaches `r` with the same counters and prints the same jumps
    have hdry := compileRules_find_G o (dryEnv o G) G n
    simp only [hr, Option.bind_some, slotCode, hslot] at hdry
    obtain ⟨rc, hrc, hc⟩ := Program.find_mem hdry
    have : l ∈ dryJumps o G := Program.mem_jumps.mpr ⟨rc, hrc, _, hc, by
      rw [jumps_ruleFunc, ← compile_jumps_eq (realEnv o G) (dryEnv o G) rfl, ← jumps_ruleFunc, ← hcr]
      exact hl⟩
    simpa [realEnv] using this

theorem compileAll_find_G {o : Opts} {G : Grammar} {n : String}
    (h : ((compileAll o G).find n).isSome = true) : (G.find n).isSome = true := by
  obtain ⟨cr, hfind⟩ := Option.isSome_iff_exists.mp h
  obtain ⟨r, _, _, hE⟩ := compileAll_find hfind
  rw [hE.find]; rfl

/-- With respect to the grammar of the bodies as emitted (`expandG o G`; it is `G` without
    `-inline`).  What remains for a checker to establish is `hfine`. -/
theorem compileAll_worldGen {G : Grammar} {o : Opts} {cfg : Cfg} {inp : List Sym}
    (hast : o.ast = true) (hcfg : cfg.ast = true) (hinp : ∀ c ∈ inp, c ≠ END)
    (hL : LinkedOK G = true)
    (hfine : ∀ n r kr, G.find n = some r → ((compileAll o G).find n).isSome = true →
      slotOf o (rulesCount G) r kr = .func → (bodyOf o G r).fineS (compileAll o G))
    (halways : ∀ n, alwaysSucceeds G n = true →
      ∀ p evs, ¬ Eval (expandG o G) cfg.rho inp (.name n) p .fail evs) :
    World (compileAll o G) cfg (realEnv o G) (expandG o G) inp where
  ast := hcfg
  envAst := hast
  inpOK := hinp
  always := halways
  idInj := fun n1 n2 h1 h2 hid =>
    LinkedOK.idInj hL (compileAll_find_G h1) (compileAll_find_G h2)
      (by rwa [expandG_idOf, expandG_idOf] at hid)
  rules := by
    intro n cr hfind
    obtain ⟨r, kr, stb, hE⟩ := compileAll_find hfind
    obtain ⟨e, he⟩ := LinkedOK.shape hL hE.find (slotOf_func_iff.mp hE.slot).1
    exact ⟨r, _, kr, stb, hE.body, hE.code, hE.lt, hE.uniq, hE.used,
      hfine n r kr hE.find (by rw [hfind]; rfl) hE.slot,
      by rw [expandG_idOf]; simp [Grammar.idOf, hE.find], bodyOf_ipush he⟩

/-- `-switch` is a rewrite of `G`, which `GrammarOK` excludes by forbidding `ualt`; the emission never
    reads `o.switch`, so `_hsw` is not used. -/
theorem compileAll_world {G : Grammar} {o : Opts} {cfg : Cfg} {inp : List Sym}
    (_hsw : o.switch = false) (hinl : o.inline = false) (hast : o.ast = true)
    (hcfg : cfg.ast = true)
    (hinp : ∀ c ∈ inp, c ≠ END)
    (hG : GrammarOK G) (hL : LinkedOK G = true)
    (halways : ∀ n, alwaysSucceeds G n = true →
      ∀ p evs, ¬ Eval G cfg.rho inp (.name n) p .fail evs) :
    World (compileAll o G) cfg (realEnv o G) G inp := by
  have := compileAll_worldGen (o := o) (cfg := cfg) hast hcfg hinp hL
    (fun _ _ _ hr _ hslot => (GrammarOK.fine hinl hG hr hslot).fineS) (by rwa [expandG_noinline hinl])
  rwa [expandG_noinline hinl] at this

/-- … with the soundness of `CheckAlwaysSucceeds` discharged (`G.plain`: no `inl`, no `ualt`). -/
theorem compileAll_world' {G : Grammar} {o : Opts} {cfg : Cfg} {inp : List Sym}
    (hsw : o.switch = false) (hinl : o.inline = false) (hast : o.ast = true)
    (hcfg : cfg.ast = true)
    (hinp : ∀ c ∈ inp, c ≠ END)
    (hG : GrammarOK G = true) (hL : LinkedOK G = true) (hplain : G.plain) :
    World (compileAll o G) cfg (realEnv o G) G inp :=
  compileAll_world hsw hinl hast hcfg hinp hG hL (fun _ h => alwaysSucceeds_sound hplain h)

/-! ### Non-vacuity

  `GrammarOK` holds of the example grammar of `Props/C01.lean` (`exG`). -/
def linkExG : Grammar := { rules := [
  { name := "S", id := 0, body := .ipush (.seq [.star (.alt [.name "A", .chr 98]), .peekNot .dot]) "S" },
  { name := "A", id := 1, body := .ipush (.push (.chr 97) "PegText") "A" }] }

example : GrammarOK linkExG = true ∧ LinkedOK linkExG = true := by decide

/-- … and it is not trivially true: a reference to a stub (`nil`) rule is rejected. -/
example : GrammarOK { rules := [
    { name := "S", id := 0, body := .ipush (.name "B") "S" },
    { name := "B", id := 1, body := .nil }] } = false := by decide

end PegVerif

#print axioms PegVerif.compileAll_world
