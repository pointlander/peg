import PegVerif.Proofs.FrontLemmas
/-
  The hex escape `\0x<digits>` for ALL digit strings in the relational semantics (`Eval`): the digit
  string is a variable, so there is nothing to evaluate and the derivation through rule `Escape` is
  built by hand.  The grammar-dependent facts — which alternatives precede the hex alternative and
  that each of them fails on `\0`, the shape of the hex alternative, the action rule and its code —
  are read off the numbered form of `pegLinked` and checked by the kernel, so the theorem is
  re-checked against the current peg.peg on every run.
-/
namespace PegVerif

section
variable {G : Grammar} {ρ : String → Nat → Bool} {inp : List Sym}

def hexClass : Expr := .alt [.rng 48 57, .rng 97 102, .rng 65 70]

def isHexSym (c : Sym) : Bool :=
  (decide (48 ≤ c) && decide (c ≤ 57)) || (decide (97 ≤ c) && decide (c ≤ 102)) ||
  (decide (65 ≤ c) && decide (c ≤ 70))

theorem isHexSym_iff (c : Sym) :
    isHexSym c = true ↔ (48 ≤ c ∧ c ≤ 57) ∨ (97 ≤ c ∧ c ≤ 102) ∨ (65 ≤ c ∧ c ≤ 70) := by
  simp [isHexSym, or_assoc]

theorem hexClass_ok {p c : Nat} (h : inp[p]? = some c) (hc : isHexSym c = true) :
    Eval G ρ inp hexClass p (.ok (p + 1) []) [] := by
  have hf : ∀ lo hi, c < lo ∨ hi < c → Eval G ρ inp (.rng lo hi) p .fail [] := fun lo hi hlt =>
    Eval.rng_fail (by intro c' hc'; rw [h] at hc'; cases hc'; exact hlt)
  rcases (isHexSym_iff c).mp hc with h1 | h1 | h1
  · exact alt_skip [] _ _ (by simp) (Eval.rng_ok h h1.1 h1.2)
  · exact alt_skip [.rng 48 57] _ _ (by simp; exact hf _ _ (by omega)) (Eval.rng_ok h h1.1 h1.2)
  · exact alt_skip [.rng 48 57, .rng 97 102] _ _ (by simp; exact ⟨hf _ _ (by omega), hf _ _ (by omega)⟩)
      (Eval.rng_ok h h1.1 h1.2)

theorem hexClass_end {p : Nat} (h : inp[p]? = none) : Eval G ρ inp hexClass p .fail [] := by
  unfold hexClass
  have f : ∀ lo hi, Eval G ρ inp (.rng lo hi) p .fail [] :=
    fun lo hi => Eval.rng_fail (by intro c hc; rw [h] at hc; cases hc)
  have := Eval.alt_next (f 48 57) (Eval.alt_next (f 97 102) (Eval.alt_last (f 65 70)))
  simpa using this

/-- `[0-9a-fA-F]*` on a run of hex digits that ends the input, and `[0-9a-fA-F]+` when the run is
    not empty (`star_step` and `plus_ok` have the same premises). -/
theorem hex_run : ∀ (ds : List Sym) (p : Nat), inp.drop p = ds → (∀ c ∈ ds, isHexSym c = true) →
    Eval G ρ inp (.star hexClass) p (.ok (p + ds.length) []) [] ∧
    (ds ≠ [] → Eval G ρ inp (.plus hexClass) p (.ok (p + ds.length) []) []) := by
  intro ds
  induction ds with
  | nil =>
    intro p hd _
    have : inp[p]? = none := List.getElem?_eq_none (List.drop_eq_nil_iff.mp hd)
    exact ⟨by simpa using Eval.star_stop (hexClass_end this), fun h => absurd rfl h⟩
  | cons c cs ih =>
    intro p hd hall
    have hp : inp[p]? = some c := by rw [← List.head?_drop, hd, List.head?_cons]
    have h1 := hexClass_ok (G := G) (ρ := ρ) hp (hall c (by simp))
    have hd' : inp.drop (p + 1) = cs := by rw [← List.tail_drop, hd, List.tail_cons]
    have hrest := (ih (p + 1) hd' fun x hx => hall x (by simp [hx])).1
    have e : p + 1 + cs.length = p + (c :: cs).length := by simp; omega
    rw [e] at hrest
    exact ⟨by simpa using Eval.star_step h1 hrest, fun _ => by simpa using Eval.plus_ok h1 hrest⟩

/-- Shapes of alternatives of `Escape` that fail on an input starting with `\0`. -/
def failsOn0 : Expr → Bool
  | .seq (.chr 92 :: .alt [.chr a, .chr b] :: _) => a != 48 && b != 48
  | .seq (.chr 92 :: .chr a :: _) => a != 48
  | _ => false

theorem failsOn0_sound {e : Expr} (h : failsOn0 e = true) (h0 : inp[0]? = some 92)
    (h1 : inp[1]? = some 48) : Eval G ρ inp e 0 .fail [] := by
  unfold failsOn0 at h
  split at h
  · next a b tl =>
    simp only [Bool.and_eq_true, bne_iff_ne, ne_eq] at h
    have fa : Eval G ρ inp (.chr a) 1 .fail [] := Eval.chr_fail (by rw [h1]; intro hh; cases hh; exact h.1 rfl)
    have fb : Eval G ρ inp (.chr b) 1 .fail [] := Eval.chr_fail (by rw [h1]; intro hh; cases hh; exact h.2 rfl)
    have f2 : Eval G ρ inp (.alt [.chr a, .chr b]) 1 .fail ([] ++ []) := Eval.alt_next fa (Eval.alt_last fb)
    have := Eval.seq_ok_fail (es := .alt [.chr a, .chr b] :: tl) (Eval.chr_ok h0) (Eval.seq_fail f2)
    simpa using this
  · next a tl =>
    simp only [bne_iff_ne, ne_eq] at h
    have fa : Eval G ρ inp (.chr a) 1 .fail [] := Eval.chr_fail (by rw [h1]; intro hh; cases hh; exact h rfl)
    have := Eval.seq_ok_fail (es := .chr a :: tl) (Eval.chr_ok h0) (Eval.seq_fail fa)
    simpa using this
  · cases h

end

/-! ### the grammar-dependent facts, read off the numbered grammar

    The rule numbers `rEscape`, `rPegText`, `rHexAction` are those of Proofs/FrontLemmas.lean;
    `pegNumbered` turns a fact about a numbered body into the fact about the named rule. -/

noncomputable def escapeAltsI : List IExpr :=
  match (pegBodies[rEscape]? : Option IExpr) with
  | some (IExpr.ipush (IExpr.alt es) _) => es
  | _ => []
noncomputable def escapeAlts : List Expr := IExpr.toExprL pegNames escapeAltsI

noncomputable def hexAlt : Expr :=
  .seq [.chr 92, .seq [.chr 48, .alt [.chr 120, .chr 88]], .push (.plus hexClass) "PegText",
        .name hexAction]

theorem escapeI : pegBodies[rEscape]? = some (.ipush (.alt escapeAltsI) rEscape) := by kernel_rfl
theorem hexActionI :
    pegBodies[rHexAction]? = some (.ipush (.act " p.AddHexaCharacter(text) ") rHexAction) := by kernel_rfl
theorem textKindI : pegKinds[rPegText]? = some .text := by kernel_rfl
theorem escapeKindI : pegKinds[rEscape]? = some .other := by kernel_rfl
theorem hexKindI :
    pegKinds[rHexAction]? = some (.act fun text => some [.addHexaCharacter text]) := by kernel_rfl

theorem escape_body : pegLinked.G.body "Escape" = some (.ipush (.alt escapeAlts) "Escape") :=
  pegNumbered.body rEscape _ escapeI
theorem hexAction_body :
    pegLinked.G.body hexAction =
      some (.ipush (.act " p.AddHexaCharacter(text) ") hexAction) := pegNumbered.body rHexAction _ hexActionI
theorem escapeAlts_split :
    escapeAlts = escapeAlts.take hexPos ++ hexAlt :: (escapeAlts.drop (hexPos + 1)) := by kernel_rfl
theorem escapeAlts_before : (escapeAlts.take hexPos).all failsOn0 = true := by kernel_rfl

theorem escape_hex_eval (x : Sym) (hx : x = 120 ∨ x = 88) (ds : List Sym) (hne : ds ≠ [])
    (hall : ∀ c ∈ ds, isHexSym c = true) :
    ∃ evs, Eval pegLinked.G (fun _ _ => false) (92 :: 48 :: x :: ds) (.name "Escape") 0
      (.ok (3 + ds.length)
        [.node ⟨"Escape", 0, 3 + ds.length⟩
          [.node ⟨"PegText", 3, 3 + ds.length⟩ [],
           .node ⟨hexAction, 3 + ds.length, 3 + ds.length⟩ []]]) evs := by
  let inp : List Sym := 92 :: 48 :: x :: ds
  have h0 : inp[0]? = some 92 := rfl
  have h1 : inp[1]? = some 48 := rfl
  have h2 : inp[2]? = some x := rfl
  -- the hex alternative
  have e1 : Eval pegLinked.G (fun _ _ => false) inp (.chr 92) 0 (.ok 1 []) [] := Eval.chr_ok h0
  have e2 : Eval pegLinked.G (fun _ _ => false) inp (.seq [.chr 48, .alt [.chr 120, .chr 88]]) 1
      (.ok 3 []) [] := by
    have ex : Eval pegLinked.G (fun _ _ => false) inp (.alt [.chr 120, .chr 88]) 2 (.ok 3 []) [] := by
      rcases hx with hx | hx
      · subst hx; exact Eval.alt_ok (Eval.chr_ok h2)
      · subst hx
        have := Eval.alt_next (G := pegLinked.G) (ρ := fun _ _ => false) (es := [])
          (Eval.chr_fail (c := 120) (by rw [h2]; decide)) (Eval.alt_last (Eval.chr_ok h2))
        simpa using this
    have := Eval.seq_ok (Eval.chr_ok h1) (Eval.seq_ok ex Eval.seq_nil)
    simpa using this
  have e3 := (hex_run (G := pegLinked.G) (ρ := fun _ _ => false) (inp := inp) ds 3 rfl hall).2 hne
  have e3' : Eval pegLinked.G (fun _ _ => false) inp (.push (.plus hexClass) "PegText") 3
      (.ok (3 + ds.length) [.node ⟨"PegText", 3, 3 + ds.length⟩ []])
      ([] ++ [⟨"PegText", 3, 3 + ds.length⟩]) := Eval.push_ok rfl e3
  have e4 : Eval pegLinked.G (fun _ _ => false) inp (.name hexAction) (3 + ds.length)
      (.ok (3 + ds.length) [.node ⟨hexAction, 3 + ds.length, 3 + ds.length⟩ []])
      [⟨hexAction, 3 + ds.length, 3 + ds.length⟩] := Eval.name hexAction_body Eval.ipush_act
  have eseq := Eval.seq_ok e1 (Eval.seq_ok e2 (Eval.seq_ok e3' (Eval.seq_ok e4 Eval.seq_nil)))
  simp only [List.nil_append, List.append_nil] at eseq
  have hpre : ∀ y ∈ escapeAlts.take hexPos, Eval pegLinked.G (fun _ _ => false) inp y 0 .fail [] :=
    fun y hy => failsOn0_sound (List.all_eq_true.mp escapeAlts_before y hy) h0 h1
  have halt := alt_skip (escapeAlts.take hexPos) hexAlt (escapeAlts.drop (hexPos + 1)) hpre eseq
  rw [← escapeAlts_split] at halt
  exact ⟨_, Eval.name escape_body (Eval.ipush_ok (r := "Escape") rfl halt)⟩

theorem escape_hex_actions (x : Sym) (ds : List Sym) (v : Nat) (hne : ds ≠ [])
    (hv : digitsVal 16 ds 0 = some v) :
    (execute pegActs (92 :: 48 :: x :: ds)
        (postorderL [.node ⟨"Escape", 0, 3 + ds.length⟩
          [.node ⟨"PegText", 3, 3 + ds.length⟩ [],
           .node ⟨hexAction, 3 + ds.length, 3 + ds.length⟩ []]])).map
      (fun evs => runEvents pegTable evs BState.init) =
    some (.ok (if isCodePoint v = true then ⟨[.leaf .character [v]], 0, []⟩
               else ⟨[.leaf .character [0xFFFD]], 0, [hexErrMsg ds]⟩)) := by
  have hslice : slice? (92 :: 48 :: x :: ds) 3 (3 + ds.length) = some ds := by
    simp +arith [slice?, List.extract]
  -- the same tokens by rule number
  have ht : postorderL [.node ⟨"Escape", 0, 3 + ds.length⟩
          [.node ⟨"PegText", 3, 3 + ds.length⟩ [],
           .node ⟨hexAction, 3 + ds.length, 3 + ds.length⟩ []]] =
      [⟨rPegText, 3, 3 + ds.length⟩, ⟨rHexAction, 3 + ds.length, 3 + ds.length⟩,
        ⟨rEscape, 0, 3 + ds.length⟩].map (ITok.toToken pegNames) := by
    simp [ITok.toToken]; exact ⟨rfl, rfl, rfl⟩
  have hx : execI pegKinds (92 :: 48 :: x :: ds) ExecState.init
      [⟨rPegText, 3, 3 + ds.length⟩, ⟨rHexAction, 3 + ds.length, 3 + ds.length⟩,
        ⟨rEscape, 0, 3 + ds.length⟩] =
      some [(rHexAction, ⟨3, 3 + ds.length, ds⟩)] := by
    simp [execI, textKindI, hexKindI, escapeKindI, hslice]
  have hr : runI pegKinds [(rHexAction, ⟨3, 3 + ds.length, ds⟩)] BState.init =
      some (.ok (if isCodePoint v = true then ⟨[.leaf .character [v]], 0, []⟩
               else ⟨[.leaf .character [0xFFFD]], 0, [hexErrMsg ds]⟩)) := by
    simp only [runI, hexKindI, applyOps, escape_hex_spec ds v _ hne hv]
    cases isCodePoint v <;> rfl
  exact pegNumbered.run_sound ht hx hr

theorem digitVal_hex {c : Sym} (h : isHexSym c = true) : ∃ d, digitVal 16 c = some d := by
  rw [isHexSym_iff] at h
  have : digitRaw 16 c < 16 := by
    unfold digitRaw
    split
    · omega
    · split
      · omega
      · split <;> omega
  exact ⟨_, if_pos this⟩

theorem digitsVal_hex : ∀ (ds : List Sym) (acc : Nat), (∀ c ∈ ds, isHexSym c = true) →
    ∃ v, digitsVal 16 ds acc = some v := by
  intro ds
  induction ds with
  | nil => intro acc _; exact ⟨acc, rfl⟩
  | cons c cs ih =>
    intro acc h
    obtain ⟨d, hd⟩ := digitVal_hex (h c (by simp))
    obtain ⟨v, hv⟩ := ih (acc * 16 + d) (fun x hx => h x (by simp [hx]))
    exact ⟨v, by simp [digitsVal, hd, hv]⟩

end PegVerif
