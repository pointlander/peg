import PegVerif.Model.Error
import PegVerif.Proofs.CoreLemmas
/-
  `translatePositions` of Model/Error.lean against the specification `lineCol`: the loop's own update
  of `line` and `symbol` is `lineCol` one rune further (`lineCol_succ`); the invariant is described
  above `tpLoop_spec`.
-/
namespace PegVerif

@[simp] theorem lookupD_nil (k : Nat) : lookupD [] k = (0, 0) := rfl

theorem lookupD_set (m : PosMap) (k k' : Nat) (v : Nat × Nat) :
    lookupD (m.set k v) k' = if k = k' then v else lookupD m k' := by
  simp [PosMap.set, lookupD]

theorem goSlice_some {s : List Sym} {b e : Nat} (hbe : b ≤ e) (he : e ≤ s.length) :
    goSlice s b e = some ((s.take e).drop b) := by
  simp [goSlice, hbe, he]

/-! ### The specification `lineCol`: one rune further, and its recurrence -/

theorem colAfterLastNL_snoc (pre : List Sym) (c : Sym) :
    colAfterLastNL (pre ++ [c]) = if c = NL then 0 else colAfterLastNL pre + 1 := by
  unfold colAfterLastNL
  simp only [List.reverse_append, List.reverse_cons, List.reverse_nil, List.nil_append,
    List.singleton_append, List.takeWhile_cons]
  by_cases h : c = NL <;> simp [h]

theorem lineCol_at_prefix (pre rest : List Sym) :
    lineCol (pre ++ rest) pre.length = (1 + pre.count NL, 1 + colAfterLastNL pre) := by
  simp [lineCol, List.take_left' rfl]

theorem lineCol_zero (buffer : List Sym) : lineCol buffer 0 = (1, 1) := by
  simp [lineCol, colAfterLastNL]

theorem lineCol_succ (buffer : List Sym) (off : Nat) (h : off < buffer.length) :
    lineCol buffer (off + 1) =
      if buffer[off] = NL then ((lineCol buffer off).1 + 1, 1)
      else ((lineCol buffer off).1, (lineCol buffer off).2 + 1) := by
  unfold lineCol
  simp only [List.take_succ_eq_append_getElem h, List.count_append, List.count_singleton, beq_iff_eq,
    colAfterLastNL_snoc]
  split <;> simp <;> omega

theorem lineCol_append (input tail : List Sym) (off : Nat) (h : off ≤ input.length) :
    lineCol (input ++ tail) off = lineCol input off := by
  simp [lineCol, List.take_append_of_le_length h]

/-! ### The inner loop (skip duplicates of the offset just translated) -/

/-- The inner loop stops at the first index from `k` on that does not hold `i` (or at the end). -/
theorem skipDups_spec (ps : List Nat) (i k : Nat) :
    ∃ k', skipDups ps ps.length i k = some k' ∧ k ≤ k' ∧
      (∀ j, k ≤ j → j < k' → ps[j]? = some i) ∧ (∀ p, ps[k']? = some p → p ≠ i) := by
  fun_induction skipDups ps ps.length i k
  case case1 k hlt hnone =>  -- `positions[posIdx]` out of range: impossible below `length`
    simp [List.getElem?_eq_getElem hlt] at hnone
  case case2 k _ p hget hne =>  -- `break`
    refine ⟨k, rfl, Nat.le_refl _, fun j h1 h2 => by omega, fun q hq => ?_⟩
    rw [hget] at hq
    cases hq
    exact fun h => by simp [h] at hne
  case case3 k _ p hget heq ih =>  -- the post statement `posIdx++`, and on
    obtain ⟨k', h1, h2, h3, h4⟩ := ih
    have hip : i = p := by simpa using heq
    refine ⟨k', h1, by omega, fun j hj1 hj2 => ?_, h4⟩
    by_cases hjk : j = k
    · rw [hjk, hget, hip]
    · exact h3 j (by omega) hj2
  case case4 k hge =>  -- `posIdx = length`
    refine ⟨k, rfl, Nat.le_refl _, fun j h1 h2 => by omega, fun q hq => ?_⟩
    have := (List.getElem?_eq_some_iff.mp hq).1
    omega

/-! ### One iteration of the outer loop, as an equation -/

/-- The offset is not the next requested position. -/
theorem tpLoop_miss {ps : List Nat} {n : Nat} {c : Sym} {rest : List Sym} {i k line sym p : Nat}
    {tr : PosMap} (hk : ps[k]? = some p) (hip : i ≠ p) (hkn : k < n) :
    tpLoop ps n (c :: rest) i k line sym tr =
      tpLoop ps n rest (i + 1) k (if c = NL then line + 1 else line)
        (if c = NL then 0 else sym + 1) tr := by
  have hip' : ¬ (i == p) = true := by simpa using hip
  rw [tpLoop]
  simp only [hk, hip', if_false, Bool.false_eq_true]
  rw [if_neg (by omega)]
  by_cases hc : c = NL <;> simp [hc]

/-- The offset is the next requested position: it is recorded, its duplicates are skipped, and the
    loop stops if that was the last one. -/
theorem tpLoop_hit {ps : List Nat} {n : Nat} {c : Sym} {rest : List Sym} {i k k' line sym : Nat}
    {tr : PosMap} (hk : ps[k]? = some i) (hs : skipDups ps n i (k + 1) = some k') :
    tpLoop ps n (c :: rest) i k line sym tr =
      if k' ≥ n then some (tr.set i (line, sym + 1))
      else tpLoop ps n rest (i + 1) k' (if c = NL then line + 1 else line)
        (if c = NL then 0 else sym + 1) (tr.set i (line, sym + 1)) := by
  rw [tpLoop]
  simp only [hk, beq_self_eq_true, if_true, hs]
  by_cases hc : c = NL <;> simp [hc]

/-! ### The loop invariant of `translatePositions`

  At the head of the iteration for index `i` (`rest` is what is left of the buffer from `i` on):
  * `(line, symbol + 1)` is the specification's `lineCol buf i`, so a position recorded now is
    recorded correctly, and `lineCol_succ` is the loop's own update of the two variables;
  * `k < length`, and the sorted position at `k` is `≥ i`: the loop has not run past it, and since
    every position lies inside the buffer, the buffer does not end before the positions do;
  * the sorted positions before `k` are already recorded correctly (recording `i` again later would
    bind it to the same pair, so nothing need be said about where they lie).
-/

theorem tpLoop_spec (buf : List Sym) (ps : List Nat) (hs : ps.Pairwise (fun a b => a ≤ b))
    (hin : ∀ p ∈ ps, p < buf.length) :
    ∀ (rest : List Sym) (i k line sym : Nat) (tr : PosMap),
      buf.drop i = rest → (line, sym + 1) = lineCol buf i → (hk : k < ps.length) → i ≤ ps[k] →
      (∀ j p, j < k → ps[j]? = some p → lookupD tr p = lineCol buf p) →
      ∃ m, tpLoop ps ps.length rest i k line sym tr = some m ∧
        ∀ p ∈ ps, lookupD m p = lineCol buf p := by
  intro rest
  induction rest with
  | nil =>
    intro i k line sym tr hrest _ hk hik _
    have := hin ps[k] (List.getElem_mem hk)
    have := List.drop_eq_nil_iff.mp hrest
    omega
  | cons c rest ih =>
    intro i k line sym tr hrest hlc hk hik hlt
    obtain ⟨hi, hc, hdrop⟩ := drop_eq_cons hrest
    have hget : ps[k]? = some ps[k] := List.getElem?_eq_getElem hk
    -- the loop variables after `if c == '\n' { line, symbol = line+1, 0 }` are `lineCol` one further
    have hnext : (if c = NL then line + 1 else line, (if c = NL then 0 else sym + 1) + 1)
        = lineCol buf (i + 1) := by
      rw [lineCol_succ buf i hi, hc, ← hlc]
      by_cases h : c = NL <;> simp [h]
    by_cases hip : i = ps[k]
    · -- the position is recorded
      rw [← hip] at hget
      obtain ⟨k', hskip, hkk', hdup, hstop⟩ := skipDups_spec ps i (k + 1)
      -- the sorted positions before k' are those before k and copies of `i`, which is bound now
      have hrec : ∀ j p, j < k' → ps[j]? = some p →
          lookupD (tr.set i (line, sym + 1)) p = lineCol buf p := by
        intro j p hj hjp
        rw [lookupD_set]
        split
        · next h => rw [← h, hlc]
        · next h =>
          -- `p ≠ i`, so `j < k`: the indices from `k` on, below `k'`, hold `i`
          refine hlt j p (Nat.lt_of_not_le fun hkj => ?_) hjp
          have : ps[j]? = some i := if hje : j = k then hje ▸ hget else hdup j (by omega) hj
          exact h (Option.some.inj (this.symm.trans hjp))
      by_cases hbrk : k' ≥ ps.length
      · -- `posIdx >= length`: break
        refine ⟨tr.set i (line, sym + 1), by rw [tpLoop_hit hget hskip, if_pos hbrk], ?_⟩
        intro p hp
        obtain ⟨j, hj⟩ := List.mem_iff_getElem?.mp hp
        have hjlt : j < ps.length := (List.getElem?_eq_some_iff.mp hj).1
        exact hrec j p (by omega) hj
      · -- continue with the next rune; the position at k' is not `i`, and not below it
        have hk'lt : k' < ps.length := by omega
        have hk'get : ps[k']? = some ps[k'] := List.getElem?_eq_getElem hk'lt
        have := hstop _ hk'get
        have := sorted_getElem? hs (show k ≤ k' by omega) hget hk'get
        obtain ⟨m, hm1, hm2⟩ := ih (i + 1) k' _ _ _ hdrop hnext hk'lt (by omega) hrec
        refine ⟨m, ?_, hm2⟩
        rw [tpLoop_hit hget hskip, if_neg (by omega)]
        exact hm1
    · -- not (yet) a requested position
      obtain ⟨m, hm1, hm2⟩ := ih (i + 1) k _ _ _ hdrop hnext hk (by omega) hlt
      refine ⟨m, ?_, hm2⟩
      rw [tpLoop_miss hget hip hk]
      exact hm1

/-! ### `translatePositions` on degenerate arguments -/

/-- Go panics (`positions[0]`, index out of range) for an empty position list and a non-empty
    buffer; `Error()` never does this (it always passes two positions). -/
theorem translate_empty_positions (c : Sym) (rest : List Sym) :
    translatePositions (c :: rest) [] = none := by
  simp [translatePositions, tpLoop]

theorem translate_empty_buffer (positions : List Nat) :
    translatePositions [] positions = some [] := by
  simp [translatePositions, tpLoop]

end PegVerif
