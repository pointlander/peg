import Std.Data.String.ToNat
import PegVerif.Proofs.DiagTop
/-
  The linked grammar has pairwise different rule names (`Grammar.Uniq`) when the user's rules have,
  and no rule name and no reference of the user's grammar is of the form `Action<k>`.
  (Needs `Nat.repr_injective` from Std: the names `link` gives to action rules are pairwise different.)
-/
namespace PegVerif

theorem actName_inj {k k' : Nat} (h : (s!"Action{k}" : String) = s!"Action{k'}") : k = k' :=
  Nat.repr_injective ((String.append_right_inj _).mp h)

theorem pegText_not_act : ¬ isAct "PegText" := by
  rintro ⟨k, hk⟩
  have e1 : "PegText" = "P" ++ "egText" := by simp
  have e2 : toString "Action" = "A" ++ "ction" := by simp [toString]
  rw [e1, e2] at hk
  simp only [String.append_assoc] at hk
  exact absurd (str_append_inj hk (.inl (by decide))).1 (by decide)

/-- Invariant of `link`'s state w.r.t. the names `F` of the user's rules. -/
structure LInv (F : List String) (st : LinkSt) : Prop where
  nodup : (st.added.map (·.name)).Nodup
  addedDef : ∀ r, r ∈ st.added → r.name ∈ st.defined
  frontDef : ∀ n, n ∈ F → n ∈ st.defined
  addedNotFront : ∀ r, r ∈ st.added → r.name ∉ F
  actBound : ∀ r, r ∈ st.added → isAct r.name → ∃ k, k < st.nAct ∧ r.name = s!"Action{k}"

/-- The invariant does not read `referenced`. -/
theorem LInv.set_referenced {F : List String} {st : LinkSt} (h : LInv F st) (l : List String) :
    LInv F { st with referenced := l } :=
  ⟨h.nodup, h.addedDef, h.frontDef, h.addedNotFront, h.actBound⟩

theorem LInv.add {F : List String} {st st' : LinkSt} (h : LInv F st) (q : Rule)
    (hd : st'.defined = q.name :: st.defined) (ha : st'.added = st.added ++ [q]) (hn : st.nAct ≤ st'.nAct)
    (hnew : ∀ r, r ∈ st.added → r.name ≠ q.name) (hF : q.name ∉ F)
    (hact : isAct q.name → ∃ k, k < st'.nAct ∧ q.name = s!"Action{k}") : LInv F st' := by
  have hmem : ∀ r, r ∈ st'.added ↔ r ∈ st.added ∨ r = q := by simp [ha]
  refine ⟨?_, ?_, ?_, ?_, ?_⟩
  · rw [ha, List.map_append, List.nodup_append]
    refine ⟨h.nodup, by simp, ?_⟩
    intro x hx y hy heq
    obtain ⟨r, hr, rfl⟩ := List.mem_map.mp hx
    simp only [List.map_cons, List.map_nil, List.mem_singleton] at hy
    exact hnew r hr (heq.trans hy)
  · intro r hr
    rw [hd]
    rcases (hmem r).mp hr with hr | rfl
    · exact List.mem_cons_of_mem _ (h.addedDef r hr)
    · exact List.mem_cons_self
  · intro n hn'
    rw [hd]
    exact List.mem_cons_of_mem _ (h.frontDef n hn')
  · intro r hr
    rcases (hmem r).mp hr with hr | rfl
    · exact h.addedNotFront r hr
    · exact hF
  · intro r hr hra
    rcases (hmem r).mp hr with hr | rfl
    · obtain ⟨k, hk, hkn⟩ := h.actBound r hr hra
      exact ⟨k, Nat.lt_of_lt_of_le hk hn, hkn⟩
    · exact hact hra

theorem inv_stub {F : List String} {st : LinkSt} (a : String) (ha : ¬ isAct a) (h : LInv F st) :
    LInv F (st.stub a) := by
  by_cases hm : a ∈ st.defined
  · rwa [LinkSt.stub_of_mem hm]
  · rw [LinkSt.stub_of_not_mem hm]
    exact h.add ⟨a, st.rulesCount, .nil⟩ rfl rfl (Nat.le_refl _)
      (fun r hr (heq : r.name = a) => hm (heq ▸ h.addedDef r hr)) (fun hF => hm (h.frontDef _ hF))
      (fun hact => absurd hact ha)

theorem inv_act {F : List String} {st : LinkSt} (hF : ∀ n, n ∈ F → ¬ isAct n) (code : String) (h : LInv F st) :
    LInv F (st.step (.act code)) := by
  refine h.add _ rfl rfl (Nat.le_succ _) (fun r hr heq => ?_) (fun hmem => hF _ hmem ⟨st.nAct, rfl⟩)
    (fun _ => ⟨st.nAct, Nat.lt_succ_self _, rfl⟩)
  -- an `Action<k>` among the added rules has `k < nAct`
  obtain ⟨k, hk, hkn⟩ := h.actBound r hr ⟨st.nAct, heq⟩
  have := actName_inj (hkn.symm.trans heq)
  omega

theorem step_inv {F : List String} (hF : ∀ n, n ∈ F → ¬ isAct n) {st : LinkSt} (h : LInv F st) :
    ∀ ev : LinkEv, (∀ n, ev = .ref n → ¬ isAct n) → LInv F (st.step ev)
  | .act code, _ => inv_act hF code h
  | .ref n, hn => inv_stub n (hn n rfl) (h.set_referenced _)
  | .cap, _ => inv_stub "PegText" pegText_not_act h

theorem foldl_inv {F : List String} (hF : ∀ n, n ∈ F → ¬ isAct n) :
    ∀ (evs : List LinkEv) (st : LinkSt), (∀ n, .ref n ∈ evs → ¬ isAct n) → LInv F st →
      LInv F (evs.foldl LinkSt.step st)
  | [], _, _, h => h
  | ev :: evs, _, hr, h =>
    foldl_inv hF evs _ (fun n hn => hr n (List.mem_cons_of_mem _ hn))
      (step_inv hF h ev fun n hn => hr n (hn ▸ List.mem_cons_self))

theorem linkL_inv {F : List String} (hF : ∀ n, n ∈ F → ¬ isAct n) :
    ∀ (es : List Expr) (st : LinkSt), (∀ n, n ∈ refsL es → ¬ isAct n) → LInv F st → LInv F (linkL es st).2 := by
  intro es st hr h
  rw [linkL_state]
  exact foldl_inv hF _ st (fun n hn => hr n ((eventsL_spec es).sound n hn)) h

theorem linkGrammar_uniq {rules : List Rule} (hnd : (rules.map (·.name)).Nodup)
    (hnames : ∀ r, r ∈ rules → ¬ isAct r.name)
    (hrefs : ∀ r, r ∈ rules → ∀ n, Mentions r.body n → ¬ isAct n) : (linkGrammar rules).G.Uniq := by
  have hF : ∀ n, n ∈ rules.map (·.name) → ¬ isAct n := by
    intro n hn
    obtain ⟨r, hr, rfl⟩ := List.mem_map.mp hn
    exact hnames r hr
  have h0 : LInv (rules.map (·.name)) (linkSt0 rules) :=
    ⟨List.nodup_nil, fun _ h => (nomatch h), fun _ h => h, fun _ h => (nomatch h), fun _ h => (nomatch h)⟩
  have hinv : LInv (rules.map (·.name)) (linkedSt rules) := by
    refine foldl_inv hF _ _ (fun n hn => ?_) h0
    obtain ⟨r, hr, hn'⟩ := List.mem_flatMap.mp ((eventsG_spec rules).sound n hn)
    exact hrefs r hr n ((mentions_iff_refs _ _).mpr hn')
  unfold Grammar.Uniq
  rw [linkGrammar_rules hnd, List.map_append, linkedFront,
    linkedFront_names, List.nodup_append]
  refine ⟨hnd, hinv.nodup, fun a ha b hb heq => ?_⟩
  obtain ⟨r, hr, rfl⟩ := List.mem_map.mp hb
  exact hinv.addedNotFront r hr (heq ▸ ha)

end PegVerif
