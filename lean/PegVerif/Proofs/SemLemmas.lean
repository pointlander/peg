import PegVerif.Model.Sem
import PegVerif.Proofs.SyntaxLemmas
/-
  The PEG semantics `Eval` of `Model/Sem.lean` on its own: what its auxiliary definitions compute
  (`peek`, `matchesAt`, `caseIdx` and the case a `-switch` node selects), determinism and `HasOutcome`
  (`Eval` with the attempted tokens forgotten), positions only move forward, derivations of a choice
  built by hand (`alt_skip`, `alt_all_fail`), and the soundness of the interpreter `evalF`, the oracle
  of the differential checks.
-/
namespace PegVerif

/-! ### `isAct`, `peek`, `caseIdx`, `matchesAt` -/

theorem isAct_cases (e : Expr) : (∃ c, e = .act c) ∨ e.isAct = false := by
  cases e <;> simp [Expr.isAct]

theorem inp_lt_of_some {inp : List Sym} {p : Nat} {c : Sym} (h : inp[p]? = some c) : p < inp.length :=
  (List.getElem?_eq_some_iff.mp h).1

theorem peek_of_some {inp : List Sym} {p : Nat} {c : Sym} (h : inp[p]? = some c) : peek inp p = c := by
  simp [peek, h]

theorem peek_of_none {inp : List Sym} {p : Nat} (h : inp[p]? = none) : peek inp p = END := by
  simp [peek, h]

theorem lt_length_of_peek_lt {inp : List Sym} {p : Nat} (h : peek inp p < END) : p < inp.length :=
  Nat.lt_of_not_le fun hn => by
    rw [peek_of_none (List.getElem?_eq_none hn)] at h
    exact Nat.lt_irrefl _ h

theorem matchesAt_cons {inp : List Sym} {c : Sym} {s : List Sym} {p : Nat}
    (h : matchesAt inp (c :: s) p = true) : inp[p]? = some c := by
  simp only [matchesAt, Bool.and_eq_true, beq_iff_eq] at h
  have := congrArg (·[0]?) h.1
  simpa [List.getElem?_take, List.getElem?_drop] using this

/-- `k = keys.length` is the `default:` case. -/
theorem caseIdx_eq_iff {keys : List KeySet} {c : Sym} {k : Nat} :
    caseIdx keys c = k ↔
      (∀ j (hj : j < keys.length), j < k → keys[j].has c = false) ∧
      (k = keys.length ∨ ∃ h : k < keys.length, keys[k].has c = true) := by
  unfold caseIdx
  cases hf : keys.findIdx? (fun ks => ks.has c) with
  | none =>
    rw [List.findIdx?_eq_none_iff] at hf
    have hall : ∀ j (hj : j < keys.length), keys[j].has c = false := fun j hj => hf _ (List.getElem_mem hj)
    constructor
    · rintro rfl; exact ⟨fun j hj _ => hall j hj, .inl rfl⟩
    · rintro ⟨_, rfl | ⟨h, hk⟩⟩
      · rfl
      · rw [hall k h] at hk; cases hk
  | some i =>
    obtain ⟨hi, hic, hlt⟩ := List.findIdx?_eq_some_iff_getElem.mp hf
    have hlt' : ∀ j (hj : j < keys.length), j < i → keys[j].has c = false := fun j hj hji => by
      simpa using hlt j hji
    constructor
    · rintro rfl; exact ⟨hlt', .inr ⟨hi, hic⟩⟩
    · rintro ⟨hb, hk⟩
      rcases Nat.lt_trichotomy i k with h | h | h
      · rw [hb i hi h] at hic; cases hic
      · exact h
      · rcases hk with rfl | ⟨hk, hkc⟩
        · omega
        · rw [hlt' k hk h] at hkc; cases hkc

theorem caseIdx_le (keys : List KeySet) (c : Sym) : caseIdx keys c ≤ keys.length := by
  rcases (caseIdx_eq_iff.mp (rfl : caseIdx keys c = _)).2 with h | ⟨h, _⟩
  · exact Nat.le_of_eq h
  · exact Nat.le_of_lt h

/-- A case other than the default is selected only by one of its keys. -/
theorem caseIdx_lt {keys : List KeySet} {c : Sym} (h : caseIdx keys c < keys.length) :
    ∃ K, keys[caseIdx keys c]? = some K ∧ K.has c = true := by
  rcases (caseIdx_eq_iff (keys := keys) (c := c) (k := caseIdx keys c) |>.mp rfl).2 with he | ⟨hk, hhas⟩
  · omega
  · exact ⟨_, List.getElem?_eq_getElem hk, hhas⟩

/-- The case a non-empty `-switch` node selects exists. -/
theorem ualt_case_lt (ks : List KeySet) {es : List Expr} (hne : es ≠ []) (c : Sym) :
    caseIdx (ks.take (es.length - 1)) c < es.length := by
  have h1 := caseIdx_le (ks.take (es.length - 1)) c
  have h2 : (ks.take (es.length - 1)).length ≤ es.length - 1 := by
    rw [List.length_take]; exact Nat.min_le_left _ _
  have h3 : 0 < es.length := List.length_pos_iff.mpr hne
  omega

/-! ### Determinism; outcomes -/

theorem Eval_det {G ρ inp e p r1 ev1 r2 ev2}
    (h1 : Eval G ρ inp e p r1 ev1) (h2 : Eval G ρ inp e p r2 ev2) : r1 = r2 ∧ ev1 = ev2 := by
  -- The rules for one kind of node differ in the outcome of their FIRST premise (or in a side
  -- condition on the input), which the induction hypothesis (or the side condition) decides; so
  -- the two derivations end in the same rule, and the later premises agree in turn.
  induction h1 generalizing r2 ev2 with
  | dot_ok h => cases h2 <;> simp_all
  | dot_fail h => cases h2 <;> simp_all
  | chr_ok h => cases h2 <;> simp_all
  | chr_fail h => cases h2 <;> simp_all
  | rng_ok h hl hh =>
    cases h2 with
    | rng_ok => simp
    | rng_fail hf => have := hf _ h; omega
  | rng_fail hf =>
    cases h2 with
    | rng_ok h hl hh => have := hf _ h; omega
    | rng_fail => simp
  | str_ok h => cases h2 <;> simp_all
  | str_fail h => cases h2 <;> simp_all
  | name hb _ ih =>
    cases h2 with
    | name hb' h' => rw [hb] at hb'; cases hb'; exact ih h'
  | inl _ ih => cases h2 with | inl h' => exact ih h'
  | pred_ok h => cases h2 <;> simp_all
  | pred_fail h => cases h2 <;> simp_all
  | stmt => cases h2; simp
  | act => cases h2; simp
  | nil => cases h2; simp
  | seq_nil => cases h2; simp
  | seq_fail _ ih =>
    cases h2 with
    | seq_fail h' => exact ih h'
    | seq_ok_fail h' _ => have := ih h'; simp at this
    | seq_ok h' _ => have := ih h'; simp at this
  | seq_ok_fail _ _ ih1 ih2 =>
    cases h2 with
    | seq_fail h' => have := ih1 h'; simp at this
    | seq_ok_fail h' h'' =>
      obtain ⟨e1, e2⟩ := ih1 h'; cases e1; cases e2
      obtain ⟨_, e4⟩ := ih2 h''; cases e4; simp
    | seq_ok h' h'' =>
      obtain ⟨e1, e2⟩ := ih1 h'; cases e1; cases e2
      have := ih2 h''; simp at this
  | seq_ok _ _ ih1 ih2 =>
    cases h2 with
    | seq_fail h' => have := ih1 h'; simp at this
    | seq_ok_fail h' h'' =>
      obtain ⟨e1, e2⟩ := ih1 h'; cases e1; cases e2
      have := ih2 h''; simp at this
    | seq_ok h' h'' =>
      obtain ⟨e1, e2⟩ := ih1 h'; cases e1; cases e2
      obtain ⟨e3, e4⟩ := ih2 h''; cases e3; cases e4; simp
  | alt_last _ ih => cases h2 with | alt_last h' => exact ih h'
  | alt_ok _ ih =>
    cases h2 with
    | alt_ok h' => exact ih h'
    | alt_next h' _ => have := ih h'; simp at this
  | alt_next _ _ ih1 ih2 =>
    cases h2 with
    | alt_ok h' => have := ih1 h'; simp at this
    | alt_next h' h'' =>
      obtain ⟨_, e2⟩ := ih1 h'; cases e2
      obtain ⟨e3, e4⟩ := ih2 h''; cases e3; cases e4; simp
  | ualt hi _ ih =>
    cases h2 with
    | ualt hi' h' => rw [hi] at hi'; cases hi'; exact ih h'
  | peekFor_ok _ ih =>
    cases h2 with
    | peekFor_ok h' => obtain ⟨_, e2⟩ := ih h'; cases e2; simp
    | peekFor_fail h' => have := ih h'; simp at this
  | peekFor_fail _ ih =>
    cases h2 with
    | peekFor_ok h' => have := ih h'; simp at this
    | peekFor_fail h' => exact ih h'
  | peekNot_ok _ ih =>
    cases h2 with
    | peekNot_ok h' => obtain ⟨_, e2⟩ := ih h'; cases e2; simp
    | peekNot_fail h' => have := ih h'; simp at this
  | peekNot_fail _ ih =>
    cases h2 with
    | peekNot_ok h' => have := ih h'; simp at this
    | peekNot_fail h' => obtain ⟨_, e2⟩ := ih h'; cases e2; simp
  | query_ok _ ih =>
    cases h2 with
    | query_ok h' => exact ih h'
    | query_none h' => have := ih h'; simp at this
  | query_none _ ih =>
    cases h2 with
    | query_ok h' => have := ih h'; simp at this
    | query_none h' => obtain ⟨_, e2⟩ := ih h'; cases e2; simp
  | star_stop _ ih =>
    cases h2 with
    | star_stop h' => obtain ⟨_, e2⟩ := ih h'; cases e2; simp
    | star_step h' _ => have := ih h'; simp at this
  | star_step _ _ ih1 ih2 =>
    cases h2 with
    | star_stop h' => have := ih1 h'; simp at this
    | star_step h' h'' =>
      obtain ⟨e1, e2⟩ := ih1 h'; cases e1; cases e2
      obtain ⟨e3, e4⟩ := ih2 h''; cases e3; cases e4; simp
  | plus_fail _ ih =>
    cases h2 with
    | plus_fail h' => exact ih h'
    | plus_ok h' _ => have := ih h'; simp at this
  | plus_ok _ _ ih1 ih2 =>
    cases h2 with
    | plus_fail h' => have := ih1 h'; simp at this
    | plus_ok h' h'' =>
      obtain ⟨e1, e2⟩ := ih1 h'; cases e1; cases e2
      obtain ⟨e3, e4⟩ := ih2 h''; cases e3; cases e4; simp
  | push_ok hn _ ih =>
    cases h2 with
    | push_ok _ h' => obtain ⟨e1, e2⟩ := ih h'; cases e1; cases e2; simp
    | push_fail _ h' => have := ih h'; simp at this
    | push_act => simp [Expr.isAct] at hn
  | push_fail hn _ ih =>
    cases h2 with
    | push_ok _ h' => have := ih h'; simp at this
    | push_fail _ h' => exact ih h'
    | push_act => simp [Expr.isAct] at hn
  | push_act =>
    cases h2 with
    | push_ok hn _ => simp [Expr.isAct] at hn
    | push_fail hn _ => simp [Expr.isAct] at hn
    | push_act => simp
  | ipush_ok hn _ ih =>
    cases h2 with
    | ipush_ok _ h' => obtain ⟨e1, e2⟩ := ih h'; cases e1; cases e2; simp
    | ipush_fail _ h' => have := ih h'; simp at this
    | ipush_act => simp [Expr.isAct] at hn
  | ipush_fail hn _ ih =>
    cases h2 with
    | ipush_ok _ h' => have := ih h'; simp at this
    | ipush_fail _ h' => exact ih h'
    | ipush_act => simp [Expr.isAct] at hn
  | ipush_act =>
    cases h2 with
    | ipush_ok hn _ => simp [Expr.isAct] at hn
    | ipush_fail hn _ => simp [Expr.isAct] at hn
    | ipush_act => simp

/-- `Eval` with the attempted tokens forgotten.  They are what `-switch` does not preserve: a switch
    does not attempt the cases it skips. -/
def HasOutcome (G : Grammar) (ρ : String → Nat → Bool) (inp : List Sym) (e : Expr) (p : Nat)
    (res : Res) : Prop :=
  ∃ evs, Eval G ρ inp e p res evs

theorem HasOutcome.det {G ρ inp e p r1 r2} (h1 : HasOutcome G ρ inp e p r1)
    (h2 : HasOutcome G ρ inp e p r2) : r1 = r2 := by
  obtain ⟨_, h1⟩ := h1
  obtain ⟨_, h2⟩ := h2
  exact (Eval_det h1 h2).1

theorem Eval.name_inv {G ρ inp n p res evs} (h : Eval G ρ inp (.name n) p res evs) :
    ∃ b, G.body n = some b ∧ Eval G ρ inp b p res evs := by
  cases h with
  | name hb h' => exact ⟨_, hb, h'⟩

theorem Eval.of_name {G ρ inp n b p res evs} (hb : G.body n = some b)
    (h : Eval G ρ inp (.name n) p res evs) : Eval G ρ inp b p res evs := by
  obtain ⟨b', hb', h'⟩ := h.name_inv
  rw [hb] at hb'
  cases hb'
  exact h'

/-! ### Positions -/

/-- `p` need not be inside the input (in `Eval_bound` it is). -/
theorem Eval_pos {G : Grammar} {ρ : String → Nat → Bool} {inp e p p1 f1 evs}
    (h : Eval G ρ inp e p (.ok p1 f1) evs) : p ≤ p1 ∧ (p < p1 → p1 ≤ inp.length) := by
  generalize hr : Res.ok p1 f1 = res at h
  induction h generalizing p1 f1 with
  | dot_ok h | chr_ok h | rng_ok h _ _ => cases hr; have := inp_lt_of_some h; omega
  | str_ok h =>
    cases hr
    simp only [matchesAt, Bool.and_eq_true, decide_eq_true_eq] at h
    omega
  | name _ _ ih | inl _ ih | alt_last _ ih | alt_ok _ ih | alt_next _ _ _ ih | ualt _ _ ih
  | query_ok _ ih =>
    exact ih hr
  | seq_ok _ _ ih1 ih2 | star_step _ _ ih1 ih2 | plus_ok _ _ ih1 ih2 =>
    cases hr
    have := ih1 rfl
    have := ih2 rfl
    omega
  | push_ok _ _ ih | ipush_ok _ _ ih => cases hr; exact ih rfl
  | _ => cases hr <;> omega

theorem Eval_bound {G : Grammar} {ρ : String → Nat → Bool} {inp : List Sym} {e p p1 f1 evs}
    (h : Eval G ρ inp e p (.ok p1 f1) evs) (hp : p ≤ inp.length) : p ≤ p1 ∧ p1 ≤ inp.length := by
  have := Eval_pos h
  omega

/-! ### Derivations of an ordered choice, built by hand -/

theorem alt_skip {G : Grammar} {ρ : String → Nat → Bool} {inp : List Sym} (pre : List Expr)
    (e : Expr) (post : List Expr) {p p1 : Nat} {f : List TokTree} {evs : List Token}
    (hpre : ∀ x ∈ pre, Eval G ρ inp x p .fail [])
    (he : Eval G ρ inp e p (.ok p1 f) evs) :
    Eval G ρ inp (.alt (pre ++ e :: post)) p (.ok p1 f) evs := by
  induction pre with
  | nil =>
    cases post with
    | nil => exact Eval.alt_last he
    | cons e' rest => exact Eval.alt_ok he
  | cons x xs ih =>
    have hrest := ih fun y hy => hpre y (List.mem_cons_of_mem _ hy)
    match hxs : xs ++ e :: post, hrest with
    | [], _ => simp at hxs
    | y :: ys, hrest => simpa [hxs] using Eval.alt_next (hpre x List.mem_cons_self) hrest

theorem alt_all_fail {G : Grammar} {ρ : String → Nat → Bool} {inp : List Sym} :
    ∀ (es : List Expr) (p : Nat), es ≠ [] →
    (∀ e ∈ es, Eval G ρ inp e p .fail []) → Eval G ρ inp (.alt es) p .fail []
  | [], _, h, _ => absurd rfl h
  | [e], _, _, hall => Eval.alt_last (hall e List.mem_cons_self)
  | e :: e' :: rest, p, _, hall => by
    simpa using Eval.alt_next (hall e List.mem_cons_self)
      (alt_all_fail (e' :: rest) p (by simp) fun x hx => hall x (List.mem_cons_of_mem _ hx))

/-! ### The interpreter -/

theorem evalF_sound {G ρ inp} : ∀ fuel e p res evs,
    evalF G ρ inp fuel e p = some (res, evs) → Eval G ρ inp e p res evs := by
  intro fuel
  induction fuel with
  | zero => intro e p res evs h; simp [evalF] at h
  | succ n ih =>
    intro e p res evs h
    cases e with
    | dot =>
      simp only [evalF] at h
      split at h
      · next c hc => cases h; exact .dot_ok hc
      · next hc => cases h; exact .dot_fail hc
    | chr c =>
      simp only [evalF] at h
      split at h
      · next hc => cases h; exact .chr_ok hc
      · next hc => cases h; exact .chr_fail hc
    | rng lo hi =>
      simp only [evalF] at h
      split at h
      · next c hc =>
        split at h
        · next hr => cases h; exact .rng_ok hc hr.1 hr.2
        · next hr => cases h; exact .rng_fail (by intro c' hc'; rw [hc] at hc'; cases hc'; omega)
      · next hc => cases h; exact .rng_fail (by intro c' hc'; rw [hc] at hc'; cases hc')
    | str s =>
      simp only [evalF] at h
      split at h
      · next hc => cases h; exact .str_ok hc
      · next hc => cases h; exact .str_fail (by simpa using hc)
    | name nm =>
      simp only [evalF] at h
      split at h
      · next b hb => exact .name hb (ih _ _ _ _ h)
      · cases h
    | inl nm e => simp only [evalF] at h; exact .inl (ih _ _ _ _ h)
    | pred c =>
      simp only [evalF] at h
      split at h
      · next hc => cases h; exact .pred_ok hc
      · next hc => cases h; exact .pred_fail (by simpa using hc)
    | stmt c => simp only [evalF] at h; cases h; exact .stmt
    | act c => simp only [evalF] at h; cases h; exact .act
    | nil => simp only [evalF] at h; cases h; exact .nil
    | seq es =>
      cases es with
      | nil => simp only [evalF] at h; cases h; exact .seq_nil
      | cons e es =>
        simp only [evalF] at h
        split at h
        · cases h
        · next evs1 h1 => cases h; exact .seq_fail (ih _ _ _ _ h1)
        · next p1 f1 evs1 h1 =>
          split at h
          · cases h
          · next evs2 h2 => cases h; exact .seq_ok_fail (ih _ _ _ _ h1) (ih _ _ _ _ h2)
          · next p2 f2 evs2 h2 => cases h; exact .seq_ok (ih _ _ _ _ h1) (ih _ _ _ _ h2)
    | alt es =>
      match es with
      | [] => simp only [evalF] at h; cases h
      | [e] => simp only [evalF] at h; exact .alt_last (ih _ _ _ _ h)
      | e :: e' :: es =>
        simp only [evalF] at h
        split at h
        · cases h
        · next p1 f1 evs1 h1 => cases h; exact .alt_ok (ih _ _ _ _ h1)
        · next evs1 h1 =>
          split at h
          · cases h
          · next res2 evs2 h2 => cases h; exact .alt_next (ih _ _ _ _ h1) (ih _ _ _ _ h2)
    | ualt ks es =>
      simp only [evalF] at h
      split at h
      · next e he => exact .ualt he (ih _ _ _ _ h)
      · cases h
    | peekFor e =>
      simp only [evalF] at h
      split at h
      · cases h
      · next p1 f1 evs1 h1 => cases h; exact .peekFor_ok (ih _ _ _ _ h1)
      · next evs1 h1 => cases h; exact .peekFor_fail (ih _ _ _ _ h1)
    | peekNot e =>
      simp only [evalF] at h
      split at h
      · cases h
      · next p1 f1 evs1 h1 => cases h; exact .peekNot_fail (ih _ _ _ _ h1)
      · next evs1 h1 => cases h; exact .peekNot_ok (ih _ _ _ _ h1)
    | query e =>
      simp only [evalF] at h
      split at h
      · cases h
      · next p1 f1 evs1 h1 => cases h; exact .query_ok (ih _ _ _ _ h1)
      · next evs1 h1 => cases h; exact .query_none (ih _ _ _ _ h1)
    | star e =>
      simp only [evalF] at h
      split at h
      · cases h
      · next evs1 h1 => cases h; exact .star_stop (ih _ _ _ _ h1)
      · next p1 f1 evs1 h1 =>
        split at h
        · cases h
        · cases h
        · next p2 f2 evs2 h2 => cases h; exact .star_step (ih _ _ _ _ h1) (ih _ _ _ _ h2)
    | plus e =>
      simp only [evalF] at h
      split at h
      · cases h
      · next evs1 h1 => cases h; exact .plus_fail (ih _ _ _ _ h1)
      · next p1 f1 evs1 h1 =>
        split at h
        · cases h
        · cases h
        · next p2 f2 evs2 h2 => cases h; exact .plus_ok (ih _ _ _ _ h1) (ih _ _ _ _ h2)
    | push e r =>
      simp only [evalF] at h
      split at h
      · cases h; exact .push_act
      · next hna =>
        have hn : e.isAct = false := (isAct_cases e).resolve_left fun ⟨c, hc⟩ => hna c hc
        split at h
        · cases h
        · next evs1 h1 => cases h; exact .push_fail hn (ih _ _ _ _ h1)
        · next p1 f1 evs1 h1 => cases h; exact .push_ok hn (ih _ _ _ _ h1)
    | ipush e r =>
      simp only [evalF] at h
      split at h
      · cases h; exact .ipush_act
      · next hna =>
        have hn : e.isAct = false := (isAct_cases e).resolve_left fun ⟨c, hc⟩ => hna c hc
        split at h
        · cases h
        · next evs1 h1 => cases h; exact .ipush_fail hn (ih _ _ _ _ h1)
        · next p1 f1 evs1 h1 => cases h; exact .ipush_ok hn (ih _ _ _ _ h1)

end PegVerif
