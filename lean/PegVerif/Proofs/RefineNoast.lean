import PegVerif.Proofs.Refine
import PegVerif.Proofs.RefineNoastDefs
import PegVerif.Proofs.MachineLemmas
/-
  The refinement theorem at the mode of parsers generated with `-noast` (`noastMode`).  `RNS_all`
  (code with `-switch` nodes) and `RN_all` (without) are `RG_all` at this mode with `ua := true` and
  `ua := false`; the property theorems use RNS, and `RN_rule_all` is `RNS_rule_all` at `WorldN.toS`.
  What differs from the emission with token buffer is listed at the head of RefineNoastDefs.lean.
-/
namespace PegVerif
open Noast

variable {K : NKit} {P : Program} {cfg : Cfg} {env : CEnv} {G : Grammar} {inp : List Sym}

theorem StEffN.trans {s s1 s2 e1 e2} (h1 : StEffN K inp s s1 e1) (h2 : StEffN K inp s1 s2 e2) :
    StEffN K inp s s2 (e1 ++ e2) where
  maxTok := by rw [h2.maxTok, h1.maxTok, noCap_append, List.foldl_append]
  obs := by rw [h2.obs, h1.obs, List.foldl_append]
  tree := by rw [h2.tree, h1.tree]
  memo := by rw [h2.memo, h1.memo]

variable (K inp) in
/-- Without token buffer an attempt, successful or not, is seen only through `maxToken`, the trace
    and `text`; a `restore` matters only for the position. -/
-- reducible, so that `⟨…⟩` and `succN_iff` / `effN_iff` see through `M.Ok`, `M.Ko`
@[reducible] def noastMode : Mode where
  Inv _ := True
  Ok s s' _ evs := StEffN K inp s s' evs
  Ko := StEffN K inp
  Saved v s := v.1 = s.pos
  saved_mk _ := rfl
  saved_pos h := h
  saved_self _ _ := rfl
  ok_move _ _ := ⟨rfl, rfl, rfl, rfl⟩
  ko_refl _ := ⟨rfl, rfl, rfl, rfl⟩
  ok_inv _ := trivial
  ok_trans := StEffN.trans
  ok_ko _ := StEffN.trans
  ok_drop _ h := h
  ko_restore h _ := ⟨h.maxTok, h.obs, h.tree, h.memo⟩

/-! ### The motives of RefineNoastDefs.lean are the general one at this mode -/

theorem preNS_iff {code s p} : PreNS env inp code s p ↔ PreG (noastMode K inp) true env inp code s p :=
  ⟨fun h => ⟨h.uniq, fun _ => h.suniq, h.used, h.pos, h.ple, trivial⟩,
   fun h => ⟨h.uniq, h.suniq rfl, h.used, h.pos, h.ple⟩⟩

theorem PreN.toG {code s p} (h : PreN env inp code s p) : PreG (noastMode K inp) false env inp code s p :=
  ⟨h.uniq, (fun hf => nomatch hf), h.used, h.pos, h.ple, trivial⟩

theorem effN_iff {lbl s f s' f' evs} :
    EffN K inp lbl s f s' f' evs ↔ FailedG (noastMode K inp) lbl s f s' f' evs :=
  ⟨fun h => ⟨h.st, h.frame⟩, fun h => ⟨h.frame, h.ko.maxTok, h.ko.obs, h.ko.tree, h.ko.memo⟩⟩

/-- Success and failure leave the same trace in this mode. -/
theorem succN_iff {lbl s f s' f' p' t evs} :
    SuccG (noastMode K inp) lbl s f s' f' p' t evs ↔ s'.pos = p' ∧ FailedG (noastMode K inp) lbl s f s' f' evs :=
  ⟨fun h => ⟨h.pos, h.ok, h.frame⟩, fun h => ⟨h.1, h.2.ko, h.2.frame⟩⟩

theorem goodNS_iff {e p res evs} :
    GoodNS K P cfg env inp e p res evs ↔ GoodG (noastMode K inp) true P cfg env inp e p res evs := by
  cases res <;> simp only [GoodNS, GoodG, preNS_iff (K := K), and_assoc, succN_iff, effN_iff]

/-! ### The nodes that touch trace and `text` -/

variable {ua : Bool}

/-- A state-change statement `!{…}` goes to the machine's trace but is not compared. -/
theorem noast_stmt {p c} (hk : K.keep c = false) :
    GoodG (noastMode K inp) ua P cfg env inp (.stmt c) p (.ok p []) [] := by
  intro ko pd pmk st code pc s f hc hp _
  simp only [compile] at hc ⊢
  exact ⟨{ s with trace := s.trace ++ [(c, s.text)] }, f,
    ⟨hp.pos, ⟨rfl, by simp [obsN, List.filter_append, hk], rfl, rfl⟩, fun _ _ => rfl⟩, hc.runs rfl⟩

/-- The implicit push of an ordinary rule: `add(rule, positionN)` only counts the token and
    updates `maxToken`. -/
theorem noast_ipush_ok (hast : cfg.ast = false) {e : Expr} {r p p1 f1 evs}
    (hn : e.isAct = false) (hr : r ≠ "PegText") (hcode : K.codeOf r = none)
    (hev : Eval G cfg.rho inp e p (.ok p1 f1) evs)
    (ih : GoodG (noastMode K inp) ua P cfg env inp e p (.ok p1 f1) evs) :
    GoodG (noastMode K inp) ua P cfg env inp (.ipush e r) p (.ok p1 [.node ⟨r, p, p1⟩ f1]) (evs ++ [⟨r, p, p1⟩]) :=
  goodG_wrap_ok (compile_ipush_nonact hn _) hev ih fun st s1 fr hpos hfr _ _ _ =>
    ⟨doAdd cfg r p s1, by simp [runs, stepLocal, hfr], by simp [doAdd, hpos],
      by rw [doAdd_maxTok, hpos]; simp [noCap, hr], by simp [obsN, doAdd, inlineStep, hr, hcode],
      by simp [doAdd, hast], by simp [doAdd]⟩

/-- A capture `<e>`: `text = string(buffer[positionN:position])`. -/
theorem noast_push_ok (hast : env.ast = false) {e : Expr} {p p1 f1 evs}
    (hn : e.isAct = false) (hev : Eval G cfg.rho inp e p (.ok p1 f1) evs)
    (ih : GoodG (noastMode K inp) ua P cfg env inp e p (.ok p1 f1) evs) :
    GoodG (noastMode K inp) ua P cfg env inp (.push e "PegText") p (.ok p1 [.node ⟨"PegText", p, p1⟩ f1])
      (evs ++ [⟨"PegText", p, p1⟩]) :=
  goodG_wrap_ok (tail := fun st => [.cap st.label, .be])
    (fun ko pd pmk st => by simpa [hast] using compile_push_nonact (env := env) hn _ ko pd pmk st)
    hev ih fun st s1 fr hpos hfr hpp1 hp1 _ => by
    have hcond : p ≤ p1 ∧ p1 ≤ (bufOf inp).length := by simp [bufOf]; omega
    refine ⟨{ s1 with text := inp.extract p p1 }, ?_, hpos, by simp [noCap], by simp [obsN, inlineStep], rfl, rfl⟩
    simp [runs, stepLocal, hfr, hcond, hpos, buf_extract hpp1 hp1]

/-- An action rule: the action's code runs right here, with the current `text`. -/
theorem noast_ipush_act (hast : env.ast = false) {c r p}
    (hr : r ≠ "PegText") (hcode : K.codeOf r = some c) (hk : K.keep c = true) :
    GoodG (noastMode K inp) ua P cfg env inp (.ipush (.act c) r) p (.ok p [.node ⟨r, p, p⟩ []]) [⟨r, p, p⟩] :=
  goodG_emit fun ko pd pmk st s f hpos _ =>
    ⟨{ s with trace := s.trace ++ [(c, s.text)] }, by simp [compile, hast, runs, stepLocal], hpos,
      by simp [noCap, hr, updTok], by simp [obsN, inlineStep, hr, hcode, List.filter_append, hk], rfl, rfl⟩

/-- The `-noast` shape of an emitted rule function: no memo instructions; the entry save and the
    failure tail exist iff something jumps to the rule's failure label. -/
theorem ruleFunc_noast (hast : env.ast = false) (r : Rule) (b : Expr) (kr : Nat) (stb : CSt) :
    (ruleFunc env r b kr stb).1 =
      if env.used kr then
        Instr.save kr :: ((compile env b kr false false stb).code ++
          Instr.retT :: [Instr.label kr, Instr.restore kr, Instr.retF])
      else (compile env b kr false false stb).code ++ [Instr.retT] := by
  simp only [ruleFunc, hast]
  by_cases hu : env.used kr = true <;> simp [hu]

/-- Running the emitted `-noast` function of a rule returns what the semantics of its body says.
    (The body of a rule function is compiled without `parentDetect`.) -/
theorem noast_callee {cr : Code} {r : Rule} {b : Expr} {kr : Nat} {stb : CSt} {p res evs}
    (hast : env.ast = false) (hfn : FuncOf env cr r b kr stb)
    (ih : GoodG (noastMode K inp) ua P cfg env inp b p res evs) {s : St}
    (hpos : s.pos = p) (hple : p ≤ inp.length) :
    ∃ o s', Exec P cfg inp cr 0 s Frame.empty (o, s') ∧ RuleG (noastMode K inp) s p res evs o s' := by
  have hc := CodeAt.whole_eq (hfn.code.trans (ruleFunc_noast hast r b kr stb))
  have hpre : PreG (noastMode K inp) ua env inp cr s p :=
    ⟨hfn.uniq, fun _ => hfn.suniq, hfn.used, hpos, hple, trivial⟩
  have hlead : Lead inp p false false b := Lead_false _ _ _ _
  by_cases hu : env.used kr = true
  · -- `save kr; body; return true; kr: restore kr; return false`
    simp only [hu, ↓reduceIte] at hc
    obtain ⟨hsave, hc⟩ := hc.head
    obtain ⟨hbody, hc⟩ := hc.split
    obtain ⟨hretT, htail⟩ := hc.head
    have hstart : Steps P cfg inp cr 0 s Frame.empty (0 + 1) s (Frame.empty.set kr (s.pos, s.ti)) :=
      Steps.next (s' := s) (f' := Frame.empty.set kr (s.pos, s.ti)) hsave (by simp [stepLocal])
    have h' := ih kr false false stb cr (0 + 1) s (Frame.empty.set kr (s.pos, s.ti)) hbody hpre hlead
    cases res with
    | ok p' forest =>
      obtain ⟨s', f', hS, hst⟩ := h'
      exact ⟨_, s', hstart _ (hst _ (Exec.ret hretT (by simp [stepLocal, Res.okB]))), ⟨rfl, hS.pos⟩, hS.ok⟩
    | fail =>
      obtain ⟨s2, f2, hF, hj, hst⟩ := h'
      have hlp := labelPos_of_uniq hfn.uniq htail
      obtain ⟨hlabel, htail⟩ := htail.head
      obtain ⟨hres, htail⟩ := htail.head
      have hretF := htail.head.1
      have hfr : f2 kr = (p, s.ti) := by rw [hF.frame kr hfn.lt]; simp [Frame.set, hpos]
      refine ⟨_, { s2 with pos := p, ti := s.ti }, ?_, ⟨rfl, rfl⟩,
        ⟨hF.ko.maxTok, hF.ko.obs, hF.ko.tree, hF.ko.memo⟩⟩
      apply hstart
      apply hst _ hlp
      apply (Steps.next (s' := s2) (f' := f2) hlabel (by simp [stepLocal]))
      apply (Steps.next (s' := { s2 with pos := p, ti := s.ti }) (f' := f2) hres (by simp [stepLocal, hfr]))
      exact Exec.ret hretF (by simp [stepLocal, Res.okB])
  · -- `body; return true`: nothing jumps to `kr`, so the body cannot fail
    simp only [hu] at hc
    obtain ⟨hbody, hc⟩ := hc.split
    have hretT := hc.head.1
    have h' := ih kr false false stb cr 0 s Frame.empty hbody hpre hlead
    cases res with
    | ok p' forest =>
      obtain ⟨s', f', hS, hst⟩ := h'
      exact ⟨_, s', hst _ (Exec.ret hretT (by simp [stepLocal, Res.okB])), ⟨rfl, hS.pos⟩, hS.ok⟩
    | fail =>
      obtain ⟨s2, f2, hF, hj, hst⟩ := h'
      exact absurd (hfn.used kr (jumps_sub_of_codeAt hbody kr hj)) hu

theorem okN_part {e c : Expr} (h : e.okN K) (hp : Part e c) : c.okN K := by
  cases hp with
  | ualt hc => exact okNL_mem h _ hc
  | _ => simp_all [Expr.okN, okNL]

/-- `Expr.fineS`, or `Expr.fine` for programs without `-switch` nodes (then `SUniq` is not assumed of
    the code, see `PreG.suniq`). -/
def Frag (ua : Bool) (P : Program) (e : Expr) : Prop := if ua = true then e.fineS P else e.fine P

theorem fine_part {e c : Expr} (h : e.fine P) (hp : Part e c) : c.fine P := by
  cases hp <;> simp_all [Expr.fine, fineL]

theorem Frag.fineS {e : Expr} (h : Frag ua P e) : e.fineS P := by
  cases ua
  · exact Expr.fine.fineS h
  · exact h

theorem Frag.part {e c : Expr} (h : Frag ua P e) (hp : Part e c) : Frag ua P c := by
  cases ua
  · exact fine_part h hp
  · exact fineS_part h hp

theorem Frag.ualt {ks es} (h : Frag ua P (.ualt ks es)) : ua = true := by
  cases ua
  · exact (h : Expr.fine P _).elim
  · rfl

/-- `WorldN` (`ua = false`) and `WorldNS` (`ua = true`) in one, with what they say of an emitted
    function read for the body `b` that the user already holds. -/
structure WorldNG (ua : Bool) (K : NKit) (P : Program) (cfg : Cfg) (env : CEnv) (G : Grammar)
    (inp : List Sym) : Prop where
  ast : cfg.ast = false
  envAst : env.ast = false
  inpOK : ∀ c ∈ inp, c ≠ END
  always : ∀ n, env.always n = true → ∀ p evs, ¬ Eval G cfg.rho inp (.name n) p .fail evs
  func : ∀ {n cr b}, P.find n = some cr → G.body n = some b → ∃ r kr stb, FuncOf env cr r b kr stb
  frag : ∀ {n cr b}, P.find n = some cr → G.body n = some b → Frag ua P b
  okN : ∀ {n cr b}, P.find n = some cr → G.body n = some b → b.okN K

/-- `WorldN` and `WorldNS` differ in the fragment `F` of the bodies only. -/
theorem WorldNG.of_rules {F : Expr → Prop} (hF : ∀ {b}, F b → Frag ua P b)
    (hast : cfg.ast = false) (henv : env.ast = false) (hinp : ∀ c ∈ inp, c ≠ END)
    (halways : ∀ n, env.always n = true → ∀ p evs, ¬ Eval G cfg.rho inp (.name n) p .fail evs)
    (hrules : ∀ n cr, P.find n = some cr → ∃ (r : Rule) (b : Expr) (kr : Nat) (stb : CSt),
      G.body n = some b ∧ cr = (ruleFunc env r b kr stb).1 ∧ kr < stb.label ∧ Uniq cr ∧
      (∀ l ∈ jumps cr, env.used l = true) ∧ F b ∧ b.okN K) :
    WorldNG ua K P cfg env G inp := by
  have hrule : ∀ {n cr b}, P.find n = some cr → G.body n = some b →
      (∃ r kr stb, FuncOf env cr r b kr stb) ∧ F b ∧ b.okN K := by
    intro n cr b hfind hb
    obtain ⟨r, b', kr, stb, hb', hcode, hlt, huniq, hused, hfrag, hok⟩ := hrules n cr hfind
    obtain rfl : b' = b := Option.some.inj (hb'.symm.trans hb)
    exact ⟨⟨r, kr, stb, hcode, hlt, huniq, hused⟩, hfrag, hok⟩
  exact ⟨hast, henv, hinp, halways, fun hfind hb => (hrule hfind hb).1,
    fun hfind hb => hF (hrule hfind hb).2.1, fun hfind hb => (hrule hfind hb).2.2⟩

theorem WorldNS.toG (hW : WorldNS K P cfg env G inp) : WorldNG true K P cfg env G inp :=
  .of_rules (F := (Expr.fineS P)) id hW.ast hW.envAst hW.inpOK hW.always hW.rules

theorem WorldN.toG (hW : WorldN K P cfg env G inp) : WorldNG false K P cfg env G inp :=
  .of_rules (F := (Expr.fine P)) id hW.ast hW.envAst hW.inpOK hW.always hW.rules

/-- The `-noast` mode handles the expressions of the fragment that `link` leaves well-formed
    (`Expr.okN`). -/
theorem noastCases (hW : WorldNG ua K P cfg env G inp) :
    Cases (noastMode K inp) ua P cfg env G inp (fun e => Frag ua P e ∧ e.okN K) where
  inpOK := hW.inpOK
  part h hp := ⟨h.1.part hp, okN_part h.2 hp⟩
  body {n b} h hb := by
    obtain ⟨cr, hfind⟩ := Option.isSome_iff_exists.mp (h.1.fineS : (P.find n).isSome = true)
    exact ⟨hW.frag hfind hb, hW.okN hfind hb⟩
  fineS h := h.1.fineS
  ualt h := h.1.ualt
  name {n b p res evs} h hb hev ih := by
    obtain ⟨cr, hfind⟩ := Option.isSome_iff_exists.mp (h.1.fineS : (P.find n).isSome = true)
    obtain ⟨r, kr, stb, hfn⟩ := hW.func hfind hb
    exact goodG_call hfind (fun ha hres => hW.always n ha p evs (hres ▸ Eval.name hb hev))
      fun s hpos hple _ => noast_callee hW.envAst hfn ih hpos hple
  stmt h := noast_stmt h.2
  push_ok h hn hev ih := by
    obtain ⟨rfl, _, _⟩ := h.2
    exact noast_push_ok hW.envAst hn hev ih
  push_act h := by simp [Expr.okN, Expr.isAct] at h
  ipush_ok h hn hev ih := by
    obtain ⟨hr, _, hnone, _⟩ := h.2
    exact noast_ipush_ok hW.ast hn hr (hnone hn) hev ih
  ipush_act {c r p} h := by
    obtain ⟨hr, hact, _, _⟩ := h.2
    exact noast_ipush_act hW.envAst hr (hact c rfl).1 (hact c rfl).2

/-! ### RN and RNS -/

/-- `GoodAltNS` says of slot `ok` that it holds the entry position `p`, `GoodAltG` that it holds `s.pos`. -/
theorem goodAltNS_of {es p res evs} (h : GoodAltG (noastMode K inp) true P cfg env inp es p res evs) :
    GoodAltNS K P cfg env inp es p res evs := by
  intro ok ko pd pmk st code pc s f hc hp hok hf hl
  have := h ok ko pd pmk st code pc s f hc (preNS_iff.mp hp) hok (hf.trans hp.pos.symm) hl
  cases res <;> simpa only [and_assoc, succN_iff, effN_iff] using this

theorem goodLoopNS_iff {e p res evs} :
    GoodLoopNS K P cfg env inp e p res evs ↔ GoodLoopG (noastMode K inp) true P cfg env inp e p res evs := by
  cases res <;> simp only [GoodLoopNS, GoodLoopG, preNS_iff (K := K), and_assoc, succN_iff, effN_iff]

/-- Programs without `-switch` nodes: the flags are never set. -/
theorem goodN_of {e p res evs} (h : GoodG (noastMode K inp) false P cfg env inp e p res evs) :
    GoodN K P cfg env inp e p res evs := by
  intro ko st code pc s f hc hp
  have := h ko false false st code pc s f hc hp.toG (Lead_false _ _ _ _)
  cases res <;> simpa only [and_assoc, succN_iff, effN_iff] using this

theorem goodAltN_of {es p res evs} (h : GoodAltG (noastMode K inp) false P cfg env inp es p res evs) :
    GoodAltN K P cfg env inp es p res evs := by
  intro ok ko st code pc s f hc hp hok hf
  have := h ok ko false false st code pc s f hc hp.toG hok (hf.trans hp.pos.symm) (LeadL_false _ _ _ _)
  cases res <;> simpa only [and_assoc, succN_iff, effN_iff] using this

theorem goodLoopN_of {e p res evs} (h : GoodLoopG (noastMode K inp) false P cfg env inp e p res evs) :
    GoodLoopN K P cfg env inp e p res evs := by
  intro again out stb code pc s f hc hp hag hout
  have := h again out stb code pc s f hc hp.toG hag hout
  cases res with
  | ok => simpa only [and_assoc, succN_iff, effN_iff] using this
  | fail => exact this

/-- **RN**: for every derivation of the PEG semantics, the emitted `-noast` code of the expression
    does the same — verdict, consumed prefix, `maxToken` over the non-capture events — and runs the
    actions inline: trace and `text` are those of `reachTrace` over the events; token buffer and
    memo table are never touched.  From any point of any rule body. -/
theorem RN_all (hW : WorldN K P cfg env G inp) {e p res evs} (h : Eval G cfg.rho inp e p res evs) :
    MotiveN K P cfg env inp e p res evs := by
  intro hf hk
  have hm := RG_all (noastCases hW.toG) h ⟨hf, hk⟩
  exact ⟨goodN_of hm.1, fun es he => by subst he; exact goodAltN_of hm.2,
    fun e' he => by subst he; exact goodLoopN_of hm.2⟩

/-- RNS in the terms the proofs use (`RG_all` at `noastMode`, `-switch` nodes allowed); `RNS_all` is
    this statement spelt out. -/
theorem RNS_allG (hW : WorldNS K P cfg env G inp) {e p res evs} (h : Eval G cfg.rho inp e p res evs)
    (hf : e.fineS P) (hk : e.okN K) : MotiveG (noastMode K inp) true P cfg env inp e p res evs :=
  RG_all (noastCases hW.toG) h ⟨hf, hk⟩

/-- **RNS**: the same for code that may contain `-switch` nodes and may itself sit inside a `case`
    (any `parentDetect` flags satisfying `Lead`). -/
theorem RNS_all (hW : WorldNS K P cfg env G inp) {e p res evs} (h : Eval G cfg.rho inp e p res evs) :
    MotiveNS K P cfg env inp e p res evs := by
  intro hf hk
  have hm := RNS_allG hW h hf hk
  exact ⟨goodNS_iff.mpr hm.1, fun es he => by subst he; exact goodAltNS_of hm.2,
    fun e' he => by subst he; exact goodLoopNS_iff.mpr hm.2⟩

/-- The `.ualt` case of RNS (`goodG_ualt` at this mode): the machine's `switch` selects the case the
    semantics evaluates; the node ignores the flags it is compiled with. -/
theorem goodNS_ualt {ks : List KeySet} {es : List Expr} {e : Expr} {p res evs}
    (hidx : es[caseIdx (ks.take (es.length - 1)) (peek inp p)]? = some e)
    (hcl : casesLeadOK ks es = true)
    (ih : GoodNS K P cfg env inp e p res evs) :
    GoodNS K P cfg env inp (.ualt ks es) p res evs :=
  goodNS_iff.mpr (goodG_ualt rfl hidx hcl (goodNS_iff.mp ih))

/-! ### One emitted rule function -/

/-- `RuleSpecN` is `RuleG` at this mode: both arms of its `match` say the same. -/
theorem ruleSpecN_iff {s p res evs o s'} :
    RuleSpecN K inp s p res evs o s' ↔ RuleG (noastMode K inp) s p res evs o s' := by
  cases res <;> exact ⟨fun h => ⟨⟨h.1, h.2.1⟩, h.2.2⟩, fun h => ⟨h.out, h.pos, h.ok⟩⟩

/-- **RNS for a rule function**: there is a run of the emitted function of `n` from any state at a
    position inside the input, and it satisfies `RuleSpecN`. -/
theorem RNS_rule (hW : WorldNS K P cfg env G inp) {n cr p res evs s}
    (hfind : P.find n = some cr) (hev : Eval G cfg.rho inp (.name n) p res evs)
    (hpos : s.pos = p) (hple : p ≤ inp.length) :
    ∃ o s', Exec P cfg inp cr 0 s Frame.empty (o, s') ∧ RuleSpecN K inp s p res evs o s' := by
  obtain ⟨b, hb⟩ := hW.body_of_find hfind
  obtain ⟨r, kr, stb, hfn⟩ := hW.toG.func hfind hb
  have hev' := hev.of_name hb
  obtain ⟨o, s', hex, hR⟩ := noast_callee (K := K) (P := P) (cfg := cfg) hW.envAst hfn
    (RNS_allG hW hev' (hW.toG.frag hfind hb) (hW.toG.okN hfind hb)).1 hpos hple
  exact ⟨o, s', hex, ruleSpecN_iff.mpr hR⟩

/-- … and because the machine is deterministic, *every* run satisfies it. -/
theorem RNS_rule_all (hW : WorldNS K P cfg env G inp) {n cr p res evs s o s'}
    (hfind : P.find n = some cr) (hev : Eval G cfg.rho inp (.name n) p res evs)
    (hpos : s.pos = p) (hple : p ≤ inp.length)
    (hrun : Exec P cfg inp cr 0 s Frame.empty (o, s')) : RuleSpecN K inp s p res evs o s' :=
  Exec.all_of_ex (RNS_rule hW hfind hev hpos hple) hrun

/-- Programs without `-switch` nodes are a special case (`WorldN.toS`). -/
theorem RN_rule_all (hW : WorldN K P cfg env G inp) {n cr p res evs s o s'}
    (hfind : P.find n = some cr) (hev : Eval G cfg.rho inp (.name n) p res evs)
    (hpos : s.pos = p) (hple : p ≤ inp.length)
    (hrun : Exec P cfg inp cr 0 s Frame.empty (o, s')) : RuleSpecN K inp s p res evs o s' :=
  RNS_rule_all hW.toS hfind hev hpos hple hrun

end PegVerif

#print axioms PegVerif.RNS_all
#print axioms PegVerif.goodNS_ualt
#print axioms PegVerif.RNS_rule_all
