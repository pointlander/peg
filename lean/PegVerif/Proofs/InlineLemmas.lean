import PegVerif.Proofs.SemLemmas
import PegVerif.Model.Checkers
/-
  `-inline`: the source transformation `expandInline` preserves the PEG semantics.

  `Exp G G' e e'`: `e` (read in `G`) and `e'` (read in `G'`) differ only in that a reference `name n`
  on one side may be the in-place copy `inl n b` on the other, `b` being related to the body of `n`
  in the grammar of the `name` side.  The relation is symmetric in the pair (grammar, expression),
  so `expandInline_exp` gives both directions of the expansion at once.
-/
namespace PegVerif

/-! ### The relation -/

mutual
  inductive Exp (G G' : Grammar) : Expr → Expr → Prop where
    | dot : Exp G G' .dot .dot
    | chr {c} : Exp G G' (.chr c) (.chr c)
    | rng {lo hi} : Exp G G' (.rng lo hi) (.rng lo hi)
    | str {s} : Exp G G' (.str s) (.str s)
    | name {n} : Exp G G' (.name n) (.name n)
    | pred {c} : Exp G G' (.pred c) (.pred c)
    | stmt {c} : Exp G G' (.stmt c) (.stmt c)
    | act {c} : Exp G G' (.act c) (.act c)
    | nil : Exp G G' .nil .nil
    /-- the reference is compiled in place on the right -/
    | expand {n b b'} : G.body n = some b → Exp G G' b b' → Exp G G' (.name n) (.inl n b')
    /-- the reference is compiled in place on the left -/
    | collapse {n b b'} : G'.body n = some b' → Exp G G' b b' → Exp G G' (.inl n b) (.name n)
    | inl {n n' b b'} : Exp G G' b b' → Exp G G' (.inl n b) (.inl n' b')
    | seq {es es'} : ExpL G G' es es' → Exp G G' (.seq es) (.seq es')
    | alt {es es'} : ExpL G G' es es' → Exp G G' (.alt es) (.alt es')
    | ualt {ks es es'} : ExpL G G' es es' → Exp G G' (.ualt ks es) (.ualt ks es')
    | peekFor {e e'} : Exp G G' e e' → Exp G G' (.peekFor e) (.peekFor e')
    | peekNot {e e'} : Exp G G' e e' → Exp G G' (.peekNot e) (.peekNot e')
    | query {e e'} : Exp G G' e e' → Exp G G' (.query e) (.query e')
    | star {e e'} : Exp G G' e e' → Exp G G' (.star e) (.star e')
    | plus {e e'} : Exp G G' e e' → Exp G G' (.plus e) (.plus e')
    | push {e e' r} : Exp G G' e e' → Exp G G' (.push e r) (.push e' r)
    | ipush {e e' r} : Exp G G' e e' → Exp G G' (.ipush e r) (.ipush e' r)
  inductive ExpL (G G' : Grammar) : List Expr → List Expr → Prop where
    | nil : ExpL G G' [] []
    | cons {e e' es es'} : Exp G G' e e' → ExpL G G' es es' → ExpL G G' (e :: es) (e' :: es')
end

mutual
  theorem Exp.refl (G G' : Grammar) : ∀ (e : Expr), Exp G G' e e
    | .dot => .dot
    | .chr _ => .chr
    | .rng _ _ => .rng
    | .str _ => .str
    | .name _ => .name
    | .inl _ e => .inl (Exp.refl G G' e)
    | .pred _ => .pred
    | .stmt _ => .stmt
    | .act _ => .act
    | .nil => .nil
    | .seq es => .seq (ExpL.refl G G' es)
    | .alt es => .alt (ExpL.refl G G' es)
    | .ualt _ es => .ualt (ExpL.refl G G' es)
    | .peekFor e => .peekFor (Exp.refl G G' e)
    | .peekNot e => .peekNot (Exp.refl G G' e)
    | .query e => .query (Exp.refl G G' e)
    | .star e => .star (Exp.refl G G' e)
    | .plus e => .plus (Exp.refl G G' e)
    | .push e _ => .push (Exp.refl G G' e)
    | .ipush e _ => .ipush (Exp.refl G G' e)
  theorem ExpL.refl (G G' : Grammar) : ∀ (es : List Expr), ExpL G G' es es
    | [] => .nil
    | e :: es => .cons (Exp.refl G G' e) (ExpL.refl G G' es)
end

theorem Exp.isAct {G G' : Grammar} {e e' : Expr} (h : Exp G G' e e') : e.isAct = e'.isAct := by
  cases h <;> rfl

theorem ExpL.length {G G' : Grammar} : ∀ {es es' : List Expr}, ExpL G G' es es' → es.length = es'.length
  | [], _, h => by cases h; rfl
  | _ :: es, _, h => by
    cases h with
    | cons _ h2 => simp [ExpL.length h2]

theorem ExpL.get {G G' : Grammar} : ∀ {es es' : List Expr} {i : Nat} {e : Expr}, ExpL G G' es es' →
    es[i]? = some e → ∃ e', es'[i]? = some e' ∧ Exp G G' e e'
  | [], _, _, _, _, hi => by simp at hi
  | a :: es, _, i, e, h, hi => by
    cases h with
    | cons h1 h2 =>
      cases i with
      | zero =>
        simp only [List.getElem?_cons_zero, Option.some.injEq] at hi
        subst hi
        exact ⟨_, by simp, h1⟩
      | succ j =>
        simp only [List.getElem?_cons_succ] at hi
        obtain ⟨e', he', hx⟩ := ExpL.get h2 hi
        exact ⟨e', by simpa using he', hx⟩

/-- For lists what `expandInline_exp` states for one expression, both directions at once. -/
theorem ExpL.map {G G₁ G₂ : Grammar} {g : Expr → Expr}
    (hg : ∀ e, Exp G G₁ e (g e) ∧ Exp G₂ G (g e) e) :
    ∀ (es : List Expr), ExpL G G₁ es (es.map g) ∧ ExpL G₂ G (es.map g) es
  | [] => ⟨.nil, .nil⟩
  | e :: es => ⟨.cons (hg e).1 (ExpL.map hg es).1, .cons (hg e).2 (ExpL.map hg es).2⟩

/-! ### Related expressions have the same derivations -/

/-- What `Eval_exp` needs at a rule reference; it holds between `G` and `expandG o G` both ways. -/
def BodiesExp (G G' : Grammar) : Prop :=
  ∀ n b, G.body n = some b → ∃ b', G'.body n = some b' ∧ Exp G G' b b'

theorem Eval_exp {G G' : Grammar} {ρ : String → Nat → Bool} {inp : List Sym}
    (hGG' : BodiesExp G G') {e p res evs} (h : Eval G ρ inp e p res evs) :
    ∀ {e'}, Exp G G' e e' → Eval G' ρ inp e' p res evs := by
  induction h with
  | dot_ok h => intro e' hx; cases hx; exact .dot_ok h
  | dot_fail h => intro e' hx; cases hx; exact .dot_fail h
  | chr_ok h => intro e' hx; cases hx; exact .chr_ok h
  | chr_fail h => intro e' hx; cases hx; exact .chr_fail h
  | rng_ok h h1 h2 => intro e' hx; cases hx; exact .rng_ok h h1 h2
  | rng_fail h => intro e' hx; cases hx; exact .rng_fail h
  | str_ok h => intro e' hx; cases hx; exact .str_ok h
  | str_fail h => intro e' hx; cases hx; exact .str_fail h
  | name hb _ ih =>
    intro e' hx
    cases hx with
    | name =>
      obtain ⟨b', hb', hx'⟩ := hGG' _ _ hb
      exact .name hb' (ih hx')
    | expand hb2 hx' =>
      rw [hb] at hb2; cases hb2
      exact .inl (ih hx')
  | inl _ ih =>
    intro e' hx
    cases hx with
    | collapse hb' hx' => exact .name hb' (ih hx')
    | inl hx' => exact .inl (ih hx')
  | pred_ok h => intro e' hx; cases hx; exact .pred_ok h
  | pred_fail h => intro e' hx; cases hx; exact .pred_fail h
  | stmt => intro e' hx; cases hx; exact .stmt
  | act => intro e' hx; cases hx; exact .act
  | nil => intro e' hx; cases hx; exact .nil
  | seq_nil => intro e' hx; cases hx with | seq hl => cases hl; exact .seq_nil
  | seq_fail _ ih =>
    intro e' hx
    cases hx with | seq hl => cases hl with | cons h1 h2 => exact .seq_fail (ih h1)
  | seq_ok_fail _ _ ih1 ih2 =>
    intro e' hx
    cases hx with | seq hl => cases hl with | cons h1 h2 => exact .seq_ok_fail (ih1 h1) (ih2 (.seq h2))
  | seq_ok _ _ ih1 ih2 =>
    intro e' hx
    cases hx with | seq hl => cases hl with | cons h1 h2 => exact .seq_ok (ih1 h1) (ih2 (.seq h2))
  | alt_last _ ih =>
    intro e' hx
    cases hx with | alt hl => cases hl with | cons h1 h2 => cases h2; exact .alt_last (ih h1)
  | alt_ok _ ih =>
    intro e' hx
    cases hx with
    | alt hl => cases hl with | cons h1 h2 => cases h2 with | cons h3 h4 => exact .alt_ok (ih h1)
  | alt_next _ _ ih1 ih2 =>
    intro e' hx
    cases hx with
    | alt hl =>
      cases hl with
      | cons h1 h2 =>
        cases h2 with
        | cons h3 h4 => exact .alt_next (ih1 h1) (ih2 (.alt (.cons h3 h4)))
  | ualt hidx _ ih =>
    intro e' hx
    cases hx with
    | ualt hl =>
      obtain ⟨e1, he1, hx1⟩ := hl.get hidx
      refine .ualt ?_ (ih hx1)
      rw [← hl.length]; exact he1
  | peekFor_ok _ ih => intro e' hx; cases hx with | peekFor hx' => exact .peekFor_ok (ih hx')
  | peekFor_fail _ ih => intro e' hx; cases hx with | peekFor hx' => exact .peekFor_fail (ih hx')
  | peekNot_ok _ ih => intro e' hx; cases hx with | peekNot hx' => exact .peekNot_ok (ih hx')
  | peekNot_fail _ ih => intro e' hx; cases hx with | peekNot hx' => exact .peekNot_fail (ih hx')
  | query_ok _ ih => intro e' hx; cases hx with | query hx' => exact .query_ok (ih hx')
  | query_none _ ih => intro e' hx; cases hx with | query hx' => exact .query_none (ih hx')
  | star_stop _ ih => intro e' hx; cases hx with | star hx' => exact .star_stop (ih hx')
  | star_step _ _ ih1 ih2 =>
    intro e' hx; cases hx with | star hx' => exact .star_step (ih1 hx') (ih2 (.star hx'))
  | plus_fail _ ih => intro e' hx; cases hx with | plus hx' => exact .plus_fail (ih hx')
  | plus_ok _ _ ih1 ih2 =>
    intro e' hx; cases hx with | plus hx' => exact .plus_ok (ih1 hx') (ih2 (.star hx'))
  | push_ok ha _ ih =>
    intro e' hx
    cases hx with | push hx' => exact .push_ok (by rw [← hx'.isAct]; exact ha) (ih hx')
  | push_fail ha _ ih =>
    intro e' hx
    cases hx with | push hx' => exact .push_fail (by rw [← hx'.isAct]; exact ha) (ih hx')
  | push_act => intro e' hx; cases hx with | push hx' => cases hx'; exact .push_act
  | ipush_ok ha _ ih =>
    intro e' hx
    cases hx with | ipush hx' => exact .ipush_ok (by rw [← hx'.isAct]; exact ha) (ih hx')
  | ipush_fail ha _ ih =>
    intro e' hx
    cases hx with | ipush hx' => exact .ipush_fail (by rw [← hx'.isAct]; exact ha) (ih hx')
  | ipush_act => intro e' hx; cases hx with | ipush hx' => cases hx'; exact .ipush_act

/-! ### `expandInline` produces related expressions, in both directions -/

theorem expandInline_zero (G : Grammar) (cnt : String → Nat) (e : Expr) :
    expandInline G cnt 0 e = e := by
  unfold expandInline; rfl

/-- `expandInline` replaces some references by in-place copies of (expanded) bodies of `G`; read
    from left to right that is `expand`, from right to left `collapse`.  Three grammars: `expand`
    consults only the grammar on its left (where the `name` is) and `collapse` only the one on its
    right, so the other side is free — `G₁` and `G₂` are whatever the user needs there (`G` itself
    or `expandG o G`). -/
theorem expandInline_exp (G G₁ G₂ : Grammar) (cnt : String → Nat) :
    ∀ (f : Nat) (e : Expr),
      Exp G G₁ e (expandInline G cnt f e) ∧ Exp G₂ G (expandInline G cnt f e) e
  | 0, e => by
    rw [expandInline_zero]
    exact ⟨Exp.refl G G₁ e, Exp.refl G₂ G e⟩
  | f + 1, e => by
    have ih := expandInline_exp G G₁ G₂ cnt f
    cases e <;> simp only [expandInline] <;> try exact ⟨Exp.refl G G₁ _, Exp.refl G₂ G _⟩
    case name n =>
      split
      · split
        · next b hb => exact ⟨.expand hb (ih b).1, .collapse hb (ih b).2⟩
        · exact ⟨.name, .name⟩
      · exact ⟨.name, .name⟩
    case seq es => exact ⟨.seq (ExpL.map ih es).1, .seq (ExpL.map ih es).2⟩
    case alt es => exact ⟨.alt (ExpL.map ih es).1, .alt (ExpL.map ih es).2⟩
    case ualt ks es => exact ⟨.ualt (ExpL.map ih es).1, .ualt (ExpL.map ih es).2⟩
    case peekFor e => exact ⟨.peekFor (ih e).1, .peekFor (ih e).2⟩
    case peekNot e => exact ⟨.peekNot (ih e).1, .peekNot (ih e).2⟩
    case query e => exact ⟨.query (ih e).1, .query (ih e).2⟩
    case star e => exact ⟨.star (ih e).1, .star (ih e).2⟩
    case plus e => exact ⟨.plus (ih e).1, .plus (ih e).2⟩
    case push e r => exact ⟨.push (ih e).1, .push (ih e).2⟩
    case ipush e r => exact ⟨.ipush (ih e).1, .ipush (ih e).2⟩

/-! ### The expanded grammar -/

/-- The grammar whose rule bodies are what `compileAll o` compiles: with `-inline` every body is
    expanded; names, ids and the order of the rules are unchanged. -/
def expandG (o : Opts) (G : Grammar) : Grammar :=
  { rules := G.rules.map (fun r => { r with body := bodyOf o G r }) }

theorem expandG_find (o : Opts) (G : Grammar) (n : String) :
    (expandG o G).find n = (G.find n).map (fun r => { r with body := bodyOf o G r }) := by
  unfold Grammar.find expandG
  rw [List.find?_map]
  rfl

theorem expandG_body (o : Opts) (G : Grammar) (n : String) :
    (expandG o G).body n = (G.find n).map (bodyOf o G) := by
  unfold Grammar.body
  rw [expandG_find]
  cases G.find n <;> rfl

theorem body_of_expandG_body {o : Opts} {G : Grammar} {n : String} {b : Expr}
    (hb : (expandG o G).body n = some b) : ∃ b0, G.body n = some b0 := by
  rw [expandG_body] at hb
  cases hf : G.find n with
  | none => rw [hf] at hb; cases hb
  | some r => exact ⟨r.body, Grammar.body_of_find hf⟩

theorem bodyOf_noinline {o : Opts} (hinl : o.inline = false) (G : Grammar) (r : Rule) :
    bodyOf o G r = r.body := by
  simp [bodyOf, hinl]

theorem expandG_noinline {o : Opts} (hinl : o.inline = false) (G : Grammar) : expandG o G = G := by
  cases G
  simp [expandG, bodyOf, hinl]

theorem bodyOf_ipush {o : Opts} {G : Grammar} {r : Rule} {e : Expr} {n : String}
    (h : r.body = .ipush e n) : ∃ e', bodyOf o G r = .ipush e' n := by
  unfold bodyOf
  rw [h]
  split
  · cases G.fuel <;> simp only [expandInline, Expr.ipush.injEq, and_true, exists_eq']
  · exact ⟨e, rfl⟩

theorem bodyOf_exp (o : Opts) (G G₁ G₂ : Grammar) (r : Rule) :
    Exp G G₁ r.body (bodyOf o G r) ∧ Exp G₂ G (bodyOf o G r) r.body := by
  unfold bodyOf
  split
  · exact expandInline_exp G G₁ G₂ _ _ _
  · exact ⟨Exp.refl G G₁ _, Exp.refl G₂ G _⟩

theorem bodiesExp_expandG (o : Opts) (G : Grammar) : BodiesExp G (expandG o G) := by
  intro n b hb
  obtain ⟨r, hf, rfl⟩ := Option.map_eq_some_iff.mp hb
  exact ⟨_, by rw [expandG_body, hf]; rfl, (bodyOf_exp o G _ G r).1⟩

theorem bodiesExp_expandG_rev (o : Opts) (G : Grammar) : BodiesExp (expandG o G) G := by
  intro n b hb
  rw [expandG_body] at hb
  obtain ⟨r, hf, rfl⟩ := Option.map_eq_some_iff.mp hb
  exact ⟨r.body, Grammar.body_of_find hf, (bodyOf_exp o G G _ r).2⟩

theorem Eval_expandG {o : Opts} {G : Grammar} {ρ : String → Nat → Bool} {inp : List Sym} {e p res evs}
    (h : Eval G ρ inp e p res evs) : Eval (expandG o G) ρ inp e p res evs :=
  Eval_exp (bodiesExp_expandG o G) h (Exp.refl _ _ e)

theorem Eval_expandG_rev {o : Opts} {G : Grammar} {ρ : String → Nat → Bool} {inp : List Sym}
    {e p res evs} (h : Eval (expandG o G) ρ inp e p res evs) : Eval G ρ inp e p res evs :=
  Eval_exp (bodiesExp_expandG_rev o G) h (Exp.refl _ _ e)

/-- `-inline` does not change the PEG semantics of any expression: same result, same derivation
    forest, same attempted tokens. -/
theorem Eval_expandG_iff {o : Opts} {G : Grammar} {ρ : String → Nat → Bool} {inp : List Sym}
    {e p res evs} : Eval (expandG o G) ρ inp e p res evs ↔ Eval G ρ inp e p res evs :=
  ⟨Eval_expandG_rev, Eval_expandG⟩

end PegVerif

#print axioms PegVerif.Eval_exp
#print axioms PegVerif.Eval_expandG_iff
