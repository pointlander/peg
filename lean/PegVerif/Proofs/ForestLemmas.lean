import PegVerif.Proofs.SemLemmas
import PegVerif.Proofs.AstLemmas
import PegVerif.Proofs.EventLemmas
/-
  The derivation forest of a successful evaluation is well nested inside the consumed span, and
  the forest of a rule application is a single node spanning exactly what the rule consumed.
-/
namespace PegVerif

variable {G : Grammar} {ρ : String → Nat → Bool} {inp : List Sym}

theorem Eval_wellNested {e p res evs} (h : Eval G ρ inp e p res evs) :
    ∀ p' f, res = .ok p' f → WellNestedL p p' f := by
  induction h with
  | name _ _ ih | inl _ ih | alt_last _ ih | alt_ok _ ih | alt_next _ _ _ ih | ualt _ _ ih
  | query_ok _ ih =>
    exact ih
  | seq_ok _ _ ih1 ih2 | star_step _ _ ih1 ih2 | plus_ok _ _ ih1 ih2 =>
    intro p' f e
    cases e
    exact WellNestedL_append (ih1 _ _ rfl) (ih2 _ _ rfl)
  | push_ok _ _ ih | ipush_ok _ _ ih =>
    intro p' f e
    cases e
    exact WellNestedL_single (t := ⟨_, _, _⟩) (ih _ _ rfl)
  | push_act | ipush_act =>
    intro p' f e
    cases e
    exact WellNestedL_single (t := ⟨_, _, _⟩) (by simp)
  | _ =>
    intro p' f e
    cases e <;> simp [WellNestedL]

theorem Eval_tokens_bound {e p p' f evs} (h : Eval G ρ inp e p (.ok p' f) evs)
    (hp : p ≤ inp.length) : SpansIn p inp.length (postorderL f) := by
  intro t ht
  have := WellNestedL.within f p p' (Eval_wellNested h _ _ rfl) t ht
  have := (Eval_bound h hp).2
  omega

theorem Eval_rule_tree {n e p p' forest evs} (hb : G.body n = some (.ipush e n))
    (h : Eval G ρ inp (.name n) p (.ok p' forest) evs) :
    ∃ f, forest = [.node ⟨n, p, p'⟩ f] ∧ WellNested (.node ⟨n, p, p'⟩ f) := by
  have hw := Eval_wellNested h _ _ rfl
  cases h.of_name hb with
  | ipush_ok _ _ => exact ⟨_, rfl, ((WellNestedL_cons ..).mp hw).2.1⟩
  | ipush_act => exact ⟨_, rfl, ((WellNestedL_cons ..).mp hw).2.1⟩

end PegVerif
