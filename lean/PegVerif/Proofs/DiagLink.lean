import PegVerif.Proofs.DiagLemmas
/-
  What `linkGrammar` (first pass + `link`) contributes to the diagnostics: when there is no duplicate,
  which stubs `link` appends, what it records in `t.referenced`.
-/
namespace PegVerif

/-! ### the first pass

  `firstPass` is a fold of `fpStep`; it reports no duplicate iff the names are pairwise different, and
  then keeps every rule, wrapped. -/

/-- What the first pass makes of a rule it keeps. -/
def wrapRule (r : Rule) : Rule := { r with body := .ipush r.body r.name }

/-- One step of the fold in `firstPass`, under a name. -/
def fpStep (acc : List Rule × Option String) (r : Rule) : List Rule × Option String :=
  if acc.1.any (fun q => q.name == r.name) then (acc.1, acc.2.orElse (fun _ => some r.name))
  else (acc.1 ++ [wrapRule r], acc.2)

theorem firstPass_eq (rules : List Rule) : firstPass rules = rules.foldl fpStep ([], none) := rfl

section
variable {acc : List Rule} {d : Option String} {r : Rule}

theorem fpStep_dup (hr : r.name ∈ acc.map (·.name)) :
    fpStep (acc, d) r = (acc, d.orElse (fun _ => some r.name)) := by
  obtain ⟨q, hq, hn⟩ := List.mem_map.mp hr
  simp only [fpStep]
  exact if_pos (List.any_eq_true.mpr ⟨q, hq, by simpa using hn⟩)

theorem fpStep_new (hr : r.name ∉ acc.map (·.name)) : fpStep (acc, d) r = (acc ++ [wrapRule r], d) := by
  simp only [fpStep]
  exact if_neg fun h =>
    let ⟨q, hq, hn⟩ := List.any_eq_true.mp h; hr (List.mem_map.mpr ⟨q, hq, by simpa using hn⟩)
end

theorem nodup_head {acc rs : List Rule} {r : Rule} (h : ((acc ++ r :: rs).map (·.name)).Nodup) :
    r.name ∉ acc.map (·.name) := by
  simp only [List.map_append, List.map_cons, List.nodup_append] at h
  exact fun hr => h.2.2 _ hr _ List.mem_cons_self rfl

/-- `firstPass_dup_none` from any point on: `acc` the rules kept so far, `d` the duplicate found so
    far. -/
theorem fpFold_dup_none : ∀ (rules acc : List Rule) (d : Option String), (acc.map (·.name)).Nodup →
    ((rules.foldl fpStep (acc, d)).2 = none ↔ d = none ∧ ((acc ++ rules).map (·.name)).Nodup)
  | [], acc, d, hacc => by simp [hacc]
  | r :: rs, acc, d, hacc => by
    by_cases hr : r.name ∈ acc.map (·.name)
    · -- a duplicate: the error is set for good, and the names are not pairwise different
      have hsome : d.orElse (fun _ => some r.name) ≠ none := by cases d <;> simp [Option.orElse]
      rw [List.foldl_cons, fpStep_dup hr, fpFold_dup_none rs acc _ hacc]
      exact ⟨fun h => absurd h.1 hsome, fun h => absurd hr (nodup_head h.2)⟩
    · have hacc' : ((acc ++ [wrapRule r]).map (·.name)).Nodup := by
        simpa [List.nodup_append, wrapRule] using
          ⟨hacc, fun a ha h => hr (h ▸ List.mem_map.mpr ⟨a, ha, rfl⟩)⟩
      rw [List.foldl_cons, fpStep_new hr, fpFold_dup_none rs _ d hacc']
      simp [wrapRule]

/-- `firstPass_wrapped` from any point on. -/
theorem fpFold_wrapped : ∀ (rules acc : List Rule) (d : Option String), ((acc ++ rules).map (·.name)).Nodup →
    (rules.foldl fpStep (acc, d)).1 = acc ++ rules.map wrapRule
  | [], acc, d, _ => by simp
  | r :: rs, acc, d, h => by
    rw [List.foldl_cons, fpStep_new (nodup_head h), fpFold_wrapped rs _ d (by simpa [wrapRule] using h)]
    simp

theorem firstPass_dup_none (rules : List Rule) :
    (firstPass rules).2 = none ↔ (rules.map (·.name)).Nodup := by
  simpa [firstPass_eq] using fpFold_dup_none rules [] none List.nodup_nil

theorem firstPass_wrapped {rules : List Rule} (h : (rules.map (·.name)).Nodup) :
    (firstPass rules).1 = rules.map wrapRule := by
  simpa [firstPass_eq] using fpFold_wrapped rules [] none (by simpa using h)

/-! ### link

  The state of `link` after a traversal is a fold of elementary steps (`LinkSt.step`) over the events
  of the traversal (`eventsE`): `linkE_state`.  What `link` does to the rule set, to `t.referenced`
  and to its invariants is proved per step and lifted to the fold. -/

mutual
  /-- The expression contains a capture `<…>` (at a place `link` descends to). -/
  def hasPushE : Expr → Bool
    | .push _ _ => true
    | .ipush e _ => hasPushE e
    | .seq es => hasPushL es
    | .alt es => hasPushL es
    | .ualt _ es => hasPushL es
    | .peekFor e => hasPushE e
    | .peekNot e => hasPushE e
    | .query e => hasPushE e
    | .star e => hasPushE e
    | .plus e => hasPushE e
    | _ => false
  def hasPushL : List Expr → Bool
    | [] => false
    | e :: es => hasPushE e || hasPushL es
end

/-- What `link` does to its state at one node. -/
inductive LinkEv
  | act (code : String)   -- TypeAction: a new rule `Action<k>`
  | ref (n : String)      -- TypeName: record the reference, stub if undefined
  | cap                   -- TypePush: stub `PegText` if undefined

def LinkSt.stub (st : LinkSt) (a : String) : LinkSt :=
  if st.defined.contains a then st else
    { st with rulesCount := st.rulesCount + 1, defined := a :: st.defined,
              added := st.added ++ [{ name := a, id := st.rulesCount, body := .nil }] }

theorem LinkSt.stub_of_mem {st : LinkSt} {a : String} (h : a ∈ st.defined) : st.stub a = st := by
  simp [LinkSt.stub, h]

theorem LinkSt.stub_of_not_mem {st : LinkSt} {a : String} (h : a ∉ st.defined) :
    st.stub a = { st with rulesCount := st.rulesCount + 1, defined := a :: st.defined,
                          added := st.added ++ [{ name := a, id := st.rulesCount, body := .nil }] } := by
  simp [LinkSt.stub, h]

theorem LinkSt.stub_referenced (st : LinkSt) (a : String) : (st.stub a).referenced = st.referenced := by
  unfold LinkSt.stub
  split <;> rfl

def LinkSt.step (st : LinkSt) : LinkEv → LinkSt
  | .act code =>
    { st with nAct := st.nAct + 1, rulesCount := st.rulesCount + 1,
              defined := s!"Action{st.nAct}" :: st.defined,
              added := st.added ++ [{ name := s!"Action{st.nAct}", id := st.rulesCount,
                                      body := .ipush (.act code) s!"Action{st.nAct}" }],
              actions := st.actions ++ [(s!"Action{st.nAct}", code)] }
  | .ref n => LinkSt.stub { st with referenced := n :: st.referenced } n
  | .cap => st.stub "PegText"

mutual
  def eventsE : Expr → List LinkEv
    | .act code => [.act code]
    | .name n => [.ref n]
    | .push e _ => .cap :: eventsE e
    | .ipush e _ => eventsE e
    | .seq es => eventsL es
    | .alt es => eventsL es
    | .ualt _ es => eventsL es
    | .peekFor e => eventsE e
    | .peekNot e => eventsE e
    | .query e => eventsE e
    | .star e => eventsE e
    | .plus e => eventsE e
    | _ => []
  def eventsL : List Expr → List LinkEv
    | [] => []
    | e :: es => eventsE e ++ eventsL es
end

mutual
  theorem linkE_state : ∀ (e : Expr) (st : LinkSt), (linkE e st).2 = (eventsE e).foldl LinkSt.step st
    | .act code, st => rfl
    | .name n, st => by
      simp only [linkE, eventsE, List.foldl, LinkSt.step, LinkSt.stub]
      split <;> rfl
    | .push e r, st => by
      simp only [linkE, eventsE, List.foldl, LinkSt.step, LinkSt.stub, linkE_state e]
    -- on the other operators the state is that of the child, by computation
    | .ipush e r, st => linkE_state e st
    | .seq es, st => linkL_state es st
    | .alt es, st => linkL_state es st
    | .ualt ks es, st => linkL_state es st
    | .peekFor e, st => linkE_state e st
    | .peekNot e, st => linkE_state e st
    | .query e, st => linkE_state e st
    | .star e, st => linkE_state e st
    | .plus e, st => linkE_state e st
    | .inl a b, st | .dot, st | .chr c, st | .rng lo hi, st | .str s, st | .pred c, st | .stmt c, st
    | .nil, st => rfl
  theorem linkL_state : ∀ (es : List Expr) (st : LinkSt), (linkL es st).2 = (eventsL es).foldl LinkSt.step st
    | [], st => rfl
    | e :: es, st => by simp only [linkL, eventsL, List.foldl_append, linkE_state e, linkL_state es]
end

theorem linkRules_state : ∀ (rs : List Rule) (st : LinkSt),
    (linkRules rs st).2 = (rs.flatMap (eventsE ·.body)).foldl LinkSt.step st
  | [], st => rfl
  | r :: rs, st => by
    simp only [linkRules, List.flatMap_cons, List.foldl_append, linkE_state, linkRules_state rs]

/-- How the events of a node relate to what the other analyses read off it: its references (an
    `inl` node is a reference that `link` does not see), and whether it captures. -/
structure EvSpec (evs : List LinkEv) (refs : List String) (noInl hasPush : Bool) : Prop where
  sound : ∀ n, .ref n ∈ evs → n ∈ refs
  complete : noInl = true → ∀ n, n ∈ refs → .ref n ∈ evs
  cap : .cap ∈ evs ↔ hasPush = true

theorem EvSpec.nil (noInl : Bool) : EvSpec [] [] noInl false := by constructor <;> simp

theorem EvSpec.append {evs evs' : List LinkEv} {refs refs' : List String} {noInl noInl' hasPush hasPush' : Bool}
    (h : EvSpec evs refs noInl hasPush) (h' : EvSpec evs' refs' noInl' hasPush') :
    EvSpec (evs ++ evs') (refs ++ refs') (noInl && noInl') (hasPush || hasPush') where
  sound n := by simpa only [List.mem_append] using Or.imp (h.sound n) (h'.sound n)
  complete hi n := by
    rw [Bool.and_eq_true] at hi
    simpa only [List.mem_append] using Or.imp (h.complete hi.1 n) (h'.complete hi.2 n)
  cap := by simp only [List.mem_append, Bool.or_eq_true, h.cap, h'.cap]

theorem EvSpec.ref_iff {evs : List LinkEv} {refs : List String} {noInl hasPush : Bool}
    (h : EvSpec evs refs noInl hasPush) (hi : noInl = true) (n : String) : .ref n ∈ evs ↔ n ∈ refs :=
  ⟨h.sound n, h.complete hi n⟩

mutual
  theorem eventsE_spec : ∀ e : Expr, EvSpec (eventsE e) (refsE e) (noInlE e) (hasPushE e)
    | .name a => by constructor <;> simp [eventsE, refsE, hasPushE]
    | .inl a b => by constructor <;> simp [eventsE, noInlE, hasPushE]
    | .act c => by constructor <;> simp [eventsE, refsE, hasPushE]
    | .push e r =>
      -- the events of `e` after a `cap`
      { sound := fun n hn => (eventsE_spec e).sound n (by simpa [eventsE] using hn)
        complete := fun hi n hn => by simpa [eventsE] using (eventsE_spec e).complete hi n hn
        cap := by simp [eventsE, hasPushE] }
    | .ipush e r => eventsE_spec e
    | .seq es => eventsL_spec es
    | .alt es => eventsL_spec es
    | .ualt ks es => eventsL_spec es
    | .peekFor e => eventsE_spec e
    | .peekNot e => eventsE_spec e
    | .query e => eventsE_spec e
    | .star e => eventsE_spec e
    | .plus e => eventsE_spec e
    | .dot | .chr c | .rng lo hi | .str s | .pred c | .stmt c | .nil => EvSpec.nil _
  theorem eventsL_spec : ∀ es : List Expr, EvSpec (eventsL es) (refsL es) (noInlL es) (hasPushL es)
    | [] => EvSpec.nil _
    | e :: es => (eventsE_spec e).append (eventsL_spec es)
end

/-- `link` has appended a `nil` rule for `n`: what "used but not defined" is printed for -/
def Stub (st : LinkSt) (n : String) : Prop := ∃ r, r ∈ st.added ∧ r.body = .nil ∧ r.name = n

/-- Effect of a piece of `link` on the names that are not `Action<k>`: the names in `P` become
    defined, and those that were not defined before get a stub. -/
def Eff (st st' : LinkSt) (P : String → Prop) : Prop :=
  ∀ n, ¬ isAct n →
    (n ∈ st'.defined ↔ n ∈ st.defined ∨ P n) ∧ (Stub st' n ↔ Stub st n ∨ (n ∉ st.defined ∧ P n))

theorem Eff.refl (st : LinkSt) : Eff st st (fun _ => False) := by
  intro n _; simp

theorem Eff.comp {st st1 st2 : LinkSt} {P Q : String → Prop} (h1 : Eff st st1 P) (h2 : Eff st1 st2 Q) :
    Eff st st2 (fun n => P n ∨ Q n) := by
  intro n hn
  obtain ⟨a1, b1⟩ := h1 n hn
  obtain ⟨a2, b2⟩ := h2 n hn
  constructor
  · rw [a2, a1, or_assoc]
  · -- a name gets its stub in the first piece that wants it while it is undefined: the second piece
    -- adds one only if the name was neither defined at the start nor wanted by the first
    rw [b2, b1, a1, or_assoc, not_or, and_assoc, ← and_or_left]
    refine or_congr_right (and_congr_right fun _ => ?_)
    by_cases hp : P n <;> simp [hp]

theorem Eff.congr {st st' : LinkSt} {P Q : String → Prop} (h : ∀ n, P n ↔ Q n) (g : Eff st st' P) :
    Eff st st' Q := by
  intro n hn
  have := g n hn
  rw [h n] at this
  exact this

/-- The names `link` makes sure are defined on its way through `e`: those referred to, and `PegText`
    for a capture. -/
def wantsE (e : Expr) (n : String) : Prop := n ∈ refsE e ∨ (n = "PegText" ∧ hasPushE e = true)
def wantsL (es : List Expr) (n : String) : Prop := n ∈ refsL es ∨ (n = "PegText" ∧ hasPushL es = true)

/-- The names a list of events makes defined. -/
def wantsEv (evs : List LinkEv) (n : String) : Prop := .ref n ∈ evs ∨ (n = "PegText" ∧ .cap ∈ evs)

theorem wantsEv_append (evs evs' : List LinkEv) (n : String) :
    wantsEv (evs ++ evs') n ↔ wantsEv evs n ∨ wantsEv evs' n := by
  simp only [wantsEv, List.mem_append, and_or_left, or_or_or_comm]

theorem EvSpec.wants {evs : List LinkEv} {refs : List String} {noInl hasPush : Bool}
    (h : EvSpec evs refs noInl hasPush) (hi : noInl = true) (n : String) :
    wantsEv evs n ↔ n ∈ refs ∨ (n = "PegText" ∧ hasPush = true) := by
  rw [wantsEv, h.cap, h.ref_iff hi]

theorem eff_stub (st : LinkSt) (a : String) : Eff st (st.stub a) (fun n => n = a) := by
  intro n _
  by_cases h : a ∈ st.defined
  · rw [LinkSt.stub_of_mem h]
    exact ⟨⟨Or.inl, fun h' => h'.elim id (· ▸ h)⟩,
      ⟨Or.inl, fun h' => h'.elim id fun ⟨h1, h2⟩ => absurd (h2 ▸ h) h1⟩⟩
  · rw [LinkSt.stub_of_not_mem h]
    constructor
    · simp only [List.mem_cons]
      exact or_comm
    · simp only [Stub, List.mem_append, List.mem_singleton]
      constructor
      · rintro ⟨r, hr | rfl, hb, hn⟩
        · exact Or.inl ⟨r, hr, hb, hn⟩
        · exact Or.inr ⟨hn ▸ h, hn.symm⟩
      · rintro (⟨r, hr, hb, hn⟩ | ⟨_, h2⟩)
        · exact ⟨r, Or.inl hr, hb, hn⟩
        · exact ⟨_, Or.inr rfl, rfl, h2.symm⟩

theorem step_eff (st : LinkSt) : ∀ ev : LinkEv, Eff st (st.step ev) (wantsEv [ev])
  | .act code => by
    -- the new rule is called `Action<k>` and has a body: nothing changes for the other names
    intro n hn
    simp only [LinkSt.step, wantsEv, List.mem_singleton, reduceCtorEq, and_false, or_false]
    constructor
    · simp only [List.mem_cons, or_iff_right_iff_imp]
      exact fun heq => absurd ⟨st.nAct, heq⟩ hn
    · simp only [Stub, List.mem_append, List.mem_singleton]
      constructor
      · rintro ⟨r, hr | hr, hb, hnm⟩
        · exact ⟨r, hr, hb, hnm⟩
        · subst hr; simp at hb
      · rintro ⟨r, hr, hb, hnm⟩
        exact ⟨r, Or.inl hr, hb, hnm⟩
  | .ref a =>
    -- `Eff` reads `defined` and `added` only, and recording the reference changes neither
    (show Eff st (st.step (.ref a)) (· = a) from eff_stub { st with referenced := a :: st.referenced } a).congr
      fun n => by simp [wantsEv]
  | .cap => (eff_stub st "PegText").congr fun n => by simp [wantsEv]

theorem foldl_eff : ∀ (evs : List LinkEv) (st : LinkSt), Eff st (evs.foldl LinkSt.step st) (wantsEv evs)
  | [], st => (Eff.refl st).congr fun n => by simp [wantsEv]
  | ev :: evs, st =>
    ((step_eff st ev).comp (foldl_eff evs (st.step ev))).congr fun n => (wantsEv_append [ev] evs n).symm

theorem linkL_eff : ∀ (es : List Expr) (st : LinkSt), noInlL es = true → Eff st (linkL es st).2 (wantsL es) := by
  intro es st h
  rw [linkL_state]
  exact (foldl_eff _ st).congr ((eventsL_spec es).wants h)

/-! ### the linked grammar of rules without a duplicate

  The first pass keeps every rule (wrapped), `link` rewrites their bodies (`linkedFront`) and ends in
  the state `linkedSt`: the fold of its steps over the events of all bodies. -/

def eventsG (rules : List Rule) : List LinkEv := rules.flatMap (eventsE ·.body)

theorem eventsG_spec : ∀ rules : List Rule,
    EvSpec (eventsG rules) (rules.flatMap (refsE ·.body)) (rules.all (noInlE ·.body)) (rules.any (hasPushE ·.body))
  | [] => EvSpec.nil _
  | r :: rs => (eventsE_spec r.body).append (eventsG_spec rs)

def linkSt0 (rules : List Rule) : LinkSt :=
  { rulesCount := rules.length + 1, nAct := 0, defined := rules.map (·.name), added := [],
    actions := [], referenced := [] }

def linkedSt (rules : List Rule) : LinkSt := (eventsG rules).foldl LinkSt.step (linkSt0 rules)

def linkedFront (rules : List Rule) : List Rule := (linkRules (rules.map wrapRule) (linkSt0 rules)).1

theorem linkGrammar_dup (rules : List Rule) : (linkGrammar rules).dup = (firstPass rules).2 := by
  simp [linkGrammar]

theorem linkGrammar_of_nodup {rules : List Rule} (hnd : (rules.map (·.name)).Nodup) :
    linkGrammar rules = { G := ⟨linkedFront rules ++ (linkedSt rules).added⟩, actions := (linkedSt rules).actions,
                          dup := none, referenced := (linkedSt rules).referenced } := by
  have hfp : firstPass rules = (rules.map wrapRule, none) :=
    Prod.ext (firstPass_wrapped hnd) ((firstPass_dup_none rules).mpr hnd)
  have hst : (linkRules (rules.map wrapRule) (linkSt0 rules)).2 = linkedSt rules := by
    rw [linkRules_state, linkedSt, eventsG, List.flatMap_map]
    rfl
  have hnames : (rules.map wrapRule).map (·.name) = rules.map (·.name) := by simp [wrapRule]
  simp only [linkGrammar, hfp, hnames]
  rw [← hst]
  rfl

theorem linkGrammar_rules {rules : List Rule} (hnd : (rules.map (·.name)).Nodup) :
    (linkGrammar rules).G.rules = linkedFront rules ++ (linkedSt rules).added :=
  congrArg (·.G.rules) (linkGrammar_of_nodup hnd)

theorem linkGrammar_referenced {rules : List Rule} (hnd : (rules.map (·.name)).Nodup) :
    (linkGrammar rules).referenced = (linkedSt rules).referenced :=
  congrArg (·.referenced) (linkGrammar_of_nodup hnd)

theorem linkedFront_names : ∀ (rs : List Rule) (st : LinkSt),
    (linkRules (rs.map wrapRule) st).1.map (·.name) = rs.map (·.name)
  | [], _ => rfl
  | r :: rs, _ => congrArg (r.name :: ·) (linkedFront_names rs _)

/-- A wrapped body stays wrapped. -/
theorem linkedFront_body : ∀ (rs : List Rule) (st : LinkSt) (ru : Rule),
    ru ∈ (linkRules (rs.map wrapRule) st).1 → ru.body ≠ .nil
  | [], _, _, h => nomatch h
  | _ :: _, _, _, .head _ => fun h => nomatch h
  | _ :: rs, _, ru, .tail _ h => linkedFront_body rs _ ru h

theorem step_ref (st : LinkSt) (ev : LinkEv) (n : String) :
    n ∈ (st.step ev).referenced ↔ n ∈ st.referenced ∨ ev = .ref n := by
  cases ev <;> simp [LinkSt.step, LinkSt.stub_referenced, eq_comm, or_comm]

theorem foldl_ref (evs : List LinkEv) (st : LinkSt) (n : String) :
    n ∈ (evs.foldl LinkSt.step st).referenced ↔ n ∈ st.referenced ∨ .ref n ∈ evs := by
  induction evs generalizing st with
  | nil => simp
  | cons ev evs ih => simp [ih, step_ref, or_assoc, eq_comm]

theorem linkL_ref : ∀ (es : List Expr) (st : LinkSt), noInlL es = true →
    ∀ n, n ∈ (linkL es st).2.referenced ↔ n ∈ st.referenced ∨ n ∈ refsL es := by
  intro es st h n
  rw [linkL_state, foldl_ref, (eventsL_spec es).ref_iff h]

theorem referenced_iff {rules : List Rule} (hnd : (rules.map (·.name)).Nodup)
    (hinl : ∀ r, r ∈ rules → noInlE r.body = true) (n : String) :
    n ∈ (linkGrammar rules).referenced ↔ ∃ r, r ∈ rules ∧ Mentions r.body n := by
  rw [linkGrammar_referenced hnd, linkedSt, foldl_ref, (eventsG_spec rules).ref_iff (List.all_eq_true.mpr hinl)]
  simp only [linkSt0, List.not_mem_nil, false_or, mentions_iff_refs, List.mem_flatMap]

/-- The stubs of the linked grammar: `n` is not the name of a rule, and is mentioned somewhere (or
    is `PegText` and the grammar has a capture). -/
theorem stub_iff {rules : List Rule} (hnd : (rules.map (·.name)).Nodup)
    (hinl : ∀ r, r ∈ rules → noInlE r.body = true) {n : String} (hn : ¬ isAct n) :
    (∃ ru, ru ∈ (linkGrammar rules).G.rules ∧ ru.body = .nil ∧ ru.name = n) ↔
      (∀ r, r ∈ rules → r.name ≠ n) ∧ ∃ r, r ∈ rules ∧ wantsE r.body n := by
  -- a rule with body `nil` is one that `link` appended
  have hleft : (∃ ru, ru ∈ (linkGrammar rules).G.rules ∧ ru.body = .nil ∧ ru.name = n) ↔
      Stub (linkedSt rules) n := by
    rw [linkGrammar_rules hnd]
    constructor
    · rintro ⟨ru, hru, hbn, hnm⟩
      rcases List.mem_append.mp hru with h | h
      · exact absurd hbn (linkedFront_body _ _ ru h)
      · exact ⟨ru, h, hbn, hnm⟩
    · rintro ⟨ru, hru, hbn, hnm⟩
      exact ⟨ru, List.mem_append.mpr (Or.inr hru), hbn, hnm⟩
  have hwant : wantsEv (eventsG rules) n ↔ ∃ r, r ∈ rules ∧ wantsE r.body n := by
    rw [(eventsG_spec rules).wants (List.all_eq_true.mpr hinl)]
    -- `∃ r ∈ rules` over the disjunction, `n = "PegText"` out of it
    simp only [wantsE, List.mem_flatMap, List.any_eq_true, and_or_left, exists_or,
      and_left_comm (b := n = "PegText"), exists_and_left]
  have h0 : ¬ Stub (linkSt0 rules) n := fun ⟨_, hr, _⟩ => nomatch hr
  have hdef : n ∈ (linkSt0 rules).defined ↔ ∃ r, r ∈ rules ∧ r.name = n := List.mem_map
  obtain ⟨-, hstub⟩ := foldl_eff (eventsG rules) (linkSt0 rules) n hn
  rw [hleft, linkedSt, hstub, hwant, hdef]
  constructor
  · rintro (h | ⟨h1, h2⟩)
    · exact absurd h h0
    · exact ⟨fun r hr hrn => h1 ⟨r, hr, hrn⟩, h2⟩
  · rintro ⟨h1, h2⟩
    exact Or.inr ⟨fun ⟨r, hr, hrn⟩ => h1 r hr hrn, h2⟩

theorem front_rule_linked {rules : List Rule} (hnd : (rules.map (·.name)).Nodup) {r : Rule} (hr : r ∈ rules) :
    ∃ ru, ru ∈ (linkGrammar rules).G.rules ∧ ru.name = r.name ∧ ru.body ≠ .nil := by
  have : r.name ∈ (linkedFront rules).map (·.name) :=
    linkedFront_names rules _ ▸ List.mem_map.mpr ⟨r, hr, rfl⟩
  obtain ⟨ru, hru, hrn⟩ := List.mem_map.mp this
  exact ⟨ru, linkGrammar_rules hnd ▸ List.mem_append.mpr (Or.inl hru), hrn, linkedFront_body _ _ ru hru⟩

theorem linkGrammar_first {rules : List Rule} (hnd : (rules.map (·.name)).Nodup) {r : Rule} {rs : List Rule}
    (h : rules = r :: rs) : ∃ first rest, (linkGrammar rules).G.rules = first :: rest ∧ first.name = r.name := by
  subst h
  rw [linkGrammar_rules hnd]
  exact ⟨_, _, rfl, rfl⟩

end PegVerif
