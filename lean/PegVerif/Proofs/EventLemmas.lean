import PegVerif.Proofs.SemLemmas
import PegVerif.Proofs.MachineLemmas
/-
  Facts about the attempted-token list of an evaluation and about the `maxToken` fold.
-/
namespace PegVerif

variable {G : Grammar} {ρ : String → Nat → Bool} {inp : List Sym}

theorem Eval_events_bound {e p res evs} (h : Eval G ρ inp e p res evs) :
    p ≤ inp.length → SpansIn p inp.length evs := by
  induction h with
  | seq_ok_fail h1 _ ih1 ih2 | seq_ok h1 _ ih1 ih2 | star_step h1 _ ih1 ih2
  | plus_ok h1 _ ih1 ih2 =>
    intro hp
    have hb := Eval_bound h1 hp
    exact (ih1 hp).append (ih2 hb.2) hb.1
  | alt_next _ _ ih1 ih2 =>
    intro hp
    exact (ih1 hp).append (ih2 hp) (Nat.le_refl _)
  | push_ok _ h1 ih | ipush_ok _ h1 ih =>
    intro hp
    have hb := Eval_bound h1 hp
    exact (ih hp).append (.single (Nat.le_refl _) hb.1 hb.2) (Nat.le_refl _)
  | push_act | ipush_act =>
    intro hp
    exact .single (Nat.le_refl _) (Nat.le_refl _) hp
  | name _ _ ih | inl _ ih | seq_fail _ ih | alt_last _ ih | alt_ok _ ih | ualt _ _ ih
  | peekFor_ok _ ih | peekFor_fail _ ih | peekNot_ok _ ih | peekNot_fail _ ih | query_ok _ ih
  | query_none _ ih | star_stop _ ih | plus_fail _ ih | push_fail _ _ ih | ipush_fail _ _ ih =>
    exact ih
  | _ =>
    intro _
    exact .nil

theorem updTok_cases (mt t : Token) :
    (updTok mt t = t ∧ t.b ≠ t.e ∧ t.e > mt.e) ∨ (updTok mt t = mt ∧ ¬(t.b ≠ t.e ∧ t.e > mt.e)) := by
  unfold updTok
  split
  · next h => left; exact ⟨rfl, h⟩
  · next h => right; exact ⟨rfl, h⟩

/-- What `maxToken` is after a parse: the initial token or an attempted non-empty token, and no
    attempted non-empty token ends beyond it. -/
theorem foldl_updTok_spec (evs : List Token) (mt : Token) :
    let r := evs.foldl updTok mt
    (r = mt ∨ (r ∈ evs ∧ r.b ≠ r.e)) ∧ mt.e ≤ r.e ∧
    (∀ t ∈ evs, t.b ≠ t.e → t.e ≤ r.e) := by
  induction evs generalizing mt with
  | nil => simp
  | cons t ts ih =>
    simp only [List.foldl_cons]
    obtain ⟨h1, h2, h3⟩ := ih (updTok mt t)
    -- one step of `add`: the new token replaces `mt` exactly when it is non-empty and ends later
    rcases updTok_cases mt t with ⟨hu, hne, hgt⟩ | ⟨hu, hno⟩
    · rw [hu] at h1 h2 h3 ⊢
      refine ⟨Or.inr ?_, by omega, ?_⟩
      · rcases h1 with h | h
        · exact ⟨by simp [h], by rw [h]; exact hne⟩
        · exact ⟨by simp [h.1], h.2⟩
      · intro x hx hxne
        rcases List.mem_cons.mp hx with rfl | h
        · exact h2
        · exact h3 x h hxne
    · rw [hu] at h1 h2 h3 ⊢
      refine ⟨h1.imp id (fun h => ⟨by simp [h.1], h.2⟩), h2, ?_⟩
      intro x hx hxne
      rcases List.mem_cons.mp hx with rfl | h
      · have : ¬ x.e > mt.e := fun hgt => hno ⟨hxne, hgt⟩
        omega
      · exact h3 x h hxne

/-- It is the FIRST token with that end (`>` in `add`, not `≥`): if the fold returns an attempted
    token that occurs only once, every earlier attempted non-empty token ends strictly before it. -/
theorem foldl_updTok_first (pre post : List Token) (t mt : Token)
    (h : (pre ++ t :: post).foldl updTok mt = t) (hnew : t ∉ pre) (hp : t ∉ post) (hmt : t ≠ mt) :
    (∀ x ∈ pre, x.b ≠ x.e → x.e < t.e) ∧ mt.e < t.e := by
  rw [List.foldl_append, List.foldl_cons] at h
  obtain ⟨h1, h2, h3⟩ := foldl_updTok_spec pre mt
  obtain ⟨g1, g2, g3⟩ := foldl_updTok_spec post (updTok (pre.foldl updTok mt) t)
  rw [h] at g1 g2
  -- the fold over `post` did not pick an element of `post`, so it kept `updTok (…) t`
  have hkeep : updTok (pre.foldl updTok mt) t = t := by
    rcases g1 with g | g
    · exact g.symm
    · exact absurd g.1 hp
  -- and `updTok` returned `t`, so `t` beat the fold over `pre`
  have hbeat : t.e > (pre.foldl updTok mt).e := by
    rcases updTok_cases (pre.foldl updTok mt) t with ⟨_, _, hc⟩ | ⟨he, _⟩
    · exact hc
    · rw [he] at hkeep
      rcases h1 with h1 | h1
      · exact absurd (hkeep.symm.trans h1) hmt
      · rw [hkeep] at h1; exact absurd h1.1 hnew
  refine ⟨?_, by omega⟩
  intro x hx hxne
  have := h3 x hx hxne
  omega

end PegVerif
