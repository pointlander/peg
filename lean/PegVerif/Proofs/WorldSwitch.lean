import PegVerif.Proofs.WorldLemmas
/-
  `World` for a grammar that may contain `-switch` nodes (`ualt`), `-inline` off, AST mode, under the
  decidable `GrammarOKS` (`Model/Checkers.lean`; `Expr.okS` decides `Expr.fineS`).  Both passes hand
  the `parentDetect` flags to the case bodies and so print the same jumps, `ualt` included:
  `compileAll_find` needs nothing new here, only the checker differs from WorldLemmas.lean.
-/
namespace PegVerif

theorem okS_fineS_all {P : Program} {d : String → Bool}
    (hd : ∀ n, d n = true → (P.find n).isSome = true) :
    (∀ e : Expr, e.okS d = true → e.fineS P) ∧ (∀ es : List Expr, okSL d es = true → fineSL P es) := by
  apply Expr.fineS.mutual_induct
  all_goals intros
  all_goals simp_all only [Expr.okS, Expr.fineS, okSL, fineSL, Bool.and_eq_true, and_self,
    Bool.false_eq_true, bne_iff_ne, ne_eq, decide_eq_true_eq, not_false_eq_true, Bool.not_eq_true',
    List.isEmpty_eq_false_iff]

theorem okS_fineS {P : Program} {d : String → Bool}
    (hd : ∀ n, d n = true → (P.find n).isSome = true) : ∀ (e : Expr), e.okS d = true → e.fineS P :=
  (okS_fineS_all hd).1

theorem okSL_fineSL {P : Program} {d : String → Bool}
    (hd : ∀ n, d n = true → (P.find n).isSome = true) : ∀ (es : List Expr), okSL d es = true → fineSL P es :=
  (okS_fineS_all hd).2

theorem okB_okS_all (d : String → Bool) :
    (∀ e : Expr, e.okB d = true → e.okS d = true) ∧
    (∀ es : List Expr, okBL d es = true → okSL d es = true) := by
  apply Expr.fineS.mutual_induct
  all_goals intros
  all_goals simp_all only [Expr.okB, Expr.okS, okBL, okSL, Bool.and_eq_true, and_self,
    Bool.false_eq_true]

theorem okB_okS (d : String → Bool) : ∀ (e : Expr), e.okB d = true → e.okS d = true :=
  (okB_okS_all d).1

theorem okBL_okSL (d : String → Bool) : ∀ (es : List Expr), okBL d es = true → okSL d es = true :=
  (okB_okS_all d).2

theorem GrammarOK.toS {G : Grammar} (hG : GrammarOK G = true) : GrammarOKS G = true :=
  Grammar.all_find_imp (fun r h => by
    simp only [ruleOK, ruleOKS, Bool.or_eq_true] at h ⊢
    exact h.imp_right (okB_okS _ _)) hG

theorem GrammarOKS.fineS {o : Opts} {G : Grammar} (hinl : o.inline = false) (hG : GrammarOKS G = true)
    {n : String} {r : Rule} {kr : Nat} (hr : G.find n = some r)
    (hslot : slotOf o (rulesCount G) r kr = .func) : (bodyOf o G r).fineS (compileAll o G) := by
  obtain ⟨h1, h2, _⟩ := slotOf_func_iff.mp hslot
  rw [bodyOf_noinline hinl]
  exact okS_fineS (compileAll_hasFunc hinl) _ (by simpa [ruleOKS, h1, h2] using Grammar.all_find hG hr)

theorem compileAll_worldS {G : Grammar} {o : Opts} {cfg : Cfg} {inp : List Sym}
    (hinl : o.inline = false) (hast : o.ast = true)
    (hcfg : cfg.ast = true)
    (hinp : ∀ c ∈ inp, c ≠ END)
    (hG : GrammarOKS G = true) (hL : LinkedOK G = true)
    (halways : ∀ n, alwaysSucceeds G n = true →
      ∀ p evs, ¬ Eval G cfg.rho inp (.name n) p .fail evs) :
    World (compileAll o G) cfg (realEnv o G) G inp := by
  have := compileAll_worldGen (o := o) (cfg := cfg) hast hcfg hinp hL
    (fun _ _ _ hr _ hslot => GrammarOKS.fineS hinl hG hr hslot) (by rwa [expandG_noinline hinl])
  rwa [expandG_noinline hinl] at this

/-- … with the soundness of `CheckAlwaysSucceeds` discharged (`plainS`: no `inl`; a `ualt` never
    "always succeeds"). -/
theorem switch_world (G : Grammar) (o : Opts) (cfg : Cfg) (inp : List Sym)
    (hinl : o.inline = false) (hast : o.ast = true) (hcfg : cfg.ast = true)
    (hinp : ∀ c ∈ inp, c ≠ END) (hG : GrammarOKS G = true) (hL : LinkedOK G = true)
    (hplain : G.plainS) :
    World (compileAll o G) cfg (realEnv o G) G inp :=
  compileAll_worldS hinl hast hcfg hinp hG hL (fun _ h => alwaysSucceeds_soundS hplain h)

end PegVerif

#print axioms PegVerif.compileAll_worldS
#print axioms PegVerif.switch_world
