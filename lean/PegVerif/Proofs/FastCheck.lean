import PegVerif.Model.FastCheckDef
import PegVerif.Proofs.WorldNoastInline
import PegVerif.Model.SafeDef
/-
  The cheap checkers of `Model/FastCheckDef.lean` EQUAL the checkers the per-option theorems are
  stated with, because the quantities they share between the rules are the ones of the model:
  the counts are `rulesCount`, the function table is `hasFunc` without `-inline` and `hasFuncI` with
  it (`hasFuncOf_inlineFuncs`, WorldNoastInline.lean).
-/
namespace PegVerif
open Noast

theorem hasFuncWith_eq (G : Grammar) : hasFuncWith G (rulesCount G) = hasFunc G := rfl

theorem GrammarOKfast_eq (G : Grammar) : GrammarOKfast G = GrammarOK G := by
  simp only [GrammarOKfast, rulesCountWith_eq, hasFuncWith_eq, GrammarOK, ruleOK]
  rfl

theorem GrammarOKSfast_eq (G : Grammar) : GrammarOKSfast G = GrammarOKS G := by
  simp only [GrammarOKSfast, rulesCountWith_eq, hasFuncWith_eq, GrammarOKS, ruleOKS]
  rfl

theorem GrammarOKIfast_eq (G : Grammar) : GrammarOKIfast G = GrammarOKI G := by
  simp only [GrammarOKIfast, rulesCountWith_eq, hasFuncOf_inlineFuncs, GrammarOKI, ruleOKI,
    bodyOf_inlOpts]
  rfl

theorem GrammarOKISfast_eq (G : Grammar) : GrammarOKISfast G = GrammarOKIS G := by
  simp only [GrammarOKISfast, rulesCountWith_eq, hasFuncOf_inlineFuncs, GrammarOKIS, ruleOKIS,
    bodyOf_inlOpts]
  rfl

theorem switchSafeFast_eq (G G' : Grammar) : switchSafeFast G G' = switchSafe G G' := by
  simp only [switchSafeFast, switchSafe, GrammarOKSfast_eq]

theorem inlineSwitchSafeFast_eq (G G' : Grammar) : inlineSwitchSafeFast G G' = inlineSwitchSafe G G' := by
  simp only [inlineSwitchSafeFast, inlineSwitchSafe, GrammarOKISfast_eq]

theorem noastSwitchSafeKfast_eq (K : NKit) (G G' : Grammar) :
    noastSwitchSafeKfast K G G' = noastSwitchSafeK K G G' := by
  simp only [noastSwitchSafeKfast, noastSwitchSafeK, GrammarOKNS, GrammarOKSfast_eq]

end PegVerif

#print axioms PegVerif.GrammarOKfast_eq
#print axioms PegVerif.GrammarOKSfast_eq
#print axioms PegVerif.GrammarOKIfast_eq
#print axioms PegVerif.GrammarOKISfast_eq
#print axioms PegVerif.switchSafeFast_eq
#print axioms PegVerif.inlineSwitchSafeFast_eq
#print axioms PegVerif.noastSwitchSafeKfast_eq
