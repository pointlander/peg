import PegVerif.Proofs.RunFacts
import PegVerif.Proofs.SwitchLemmas
import PegVerif.Proofs.InlineLemmas
/-
  An emitted program implements the source grammar.

  Every option set compiles an EMISSION grammar `GX` — the linked grammar `G` itself, its `-switch`
  rewrite, or the `-inline` expansion of either — and the refinement theorems (R, RNS) relate a run
  to the derivation in `GX`.  What the end-to-end theorems need besides the `World` / `WorldNS` of
  the program is `Bridge G GX`: a rule of `GX` has an outcome in `G`, and the same one in `GX`.
  `implements_ast` / `implements_noast` put the two together once, for any program and any kit.
-/
namespace PegVerif
open Noast

/-- Every rule of `GX` has, at every position, an outcome in `G` and the same outcome in `GX`. -/
def Bridge (G GX : Grammar) : Prop :=
  ∀ ⦃n bX⦄, GX.body n = some bX → ∀ (ρ : String → Nat → Bool) (inp : List Sym) (p : Nat),
    ∃ res, HasOutcome G ρ inp (.name n) p res ∧ HasOutcome GX ρ inp (.name n) p res

theorem Bridge.self {G : Grammar} (hwf : WFB G = true) : Bridge G G := fun _ _ hb ρ inp p =>
  let ⟨res, evs, h⟩ := Eval_total' (ρ := ρ) hwf inp _ _ hb p
  ⟨res, ⟨evs, h⟩, evs, h⟩

theorem Bridge.switch {G G' : Grammar} (hwf : WFB G = true) (hsw : swOK G G' = true) : Bridge G G' :=
  fun _ _ hb _ _ p => swOK_outcome hwf hsw hb p

/-- `-inline` keeps result, forest and events (`Eval_expandG`). -/
theorem Bridge.expand {G G' : Grammar} (h : Bridge G G') (o : Opts) : Bridge G (expandG o G') :=
  fun _ _ hb ρ inp p =>
    let ⟨_, hb0⟩ := body_of_expandG_body hb
    let ⟨res, hev, evs', hev'⟩ := h hb0 ρ inp p
    ⟨res, hev, evs', Eval_expandG hev'⟩

/-- AST mode: the source grammar assigns rule `n` an outcome at 0, the emission grammar the same
    one; from every post-`Reset` state a run exists, and every run shows exactly that outcome. -/
theorem implements_ast {P : Program} {cfg : Cfg} {env : CEnv} {G GX : Grammar} {inp : List Sym}
    (hW : World P cfg env GX inp) (hB : Bridge G GX) {n cr} (hfind : P.find n = some cr) :
    ∃ res evs evsX, Eval G cfg.rho inp (.name n) 0 res evs ∧ Eval GX cfg.rho inp (.name n) 0 res evsX ∧
      ∀ s, AfterReset s → (∃ out s', Exec P cfg inp cr 0 s Frame.empty (out, s')) ∧
        ∀ out s', Exec P cfg inp cr 0 s Frame.empty (out, s') → Shows res evsX out s' := by
  obtain ⟨b, hb⟩ := hW.body_of_find hfind
  obtain ⟨res, ⟨evs, hev⟩, evsX, hevX⟩ := hB hb cfg.rho inp 0
  refine ⟨res, evs, evsX, hev, hevX, fun s hs => ⟨?_, fun _ _ hrun => R_afterReset hW hs hfind hevX hrun⟩⟩
  obtain ⟨out, s', hex, _⟩ := R_rule hW hfind hevX hs.pos (Nat.zero_le _) (by rw [hs.ti]; exact Nat.zero_le _)
    (by rw [hs.memo]; exact memoOK_nil)
  exact ⟨out, s', hex⟩

/-- `-noast`, any kit, any position inside the input: a run exists from every state there, and
    every run satisfies `RuleSpecN` for the events of the derivation in the emission grammar. -/
theorem implements_noast {K : NKit} {P : Program} {cfg : Cfg} {env : CEnv} {G GX : Grammar}
    {inp : List Sym} (hW : WorldNS K P cfg env GX inp) (hB : Bridge G GX)
    {n cr} (hfind : P.find n = some cr) {p : Nat} (hple : p ≤ inp.length) :
    ∃ res evs evsX, Eval G cfg.rho inp (.name n) p res evs ∧ Eval GX cfg.rho inp (.name n) p res evsX ∧
      ∀ s, s.pos = p → (∃ out s', Exec P cfg inp cr 0 s Frame.empty (out, s')) ∧
        ∀ out s', Exec P cfg inp cr 0 s Frame.empty (out, s') → RuleSpecN K inp s p res evsX out s' := by
  obtain ⟨b, hb⟩ := hW.body_of_find hfind
  obtain ⟨res, ⟨evs, hev⟩, evsX, hevX⟩ := hB hb cfg.rho inp p
  refine ⟨res, evs, evsX, hev, hevX, fun s hs => ⟨?_, fun _ _ hrun => RNS_rule_all hW hfind hevX hs hple hrun⟩⟩
  obtain ⟨out, s', hex, _⟩ := RNS_rule hW hfind hevX hs hple
  exact ⟨out, s', hex⟩

end PegVerif

#print axioms PegVerif.implements_ast
#print axioms PegVerif.implements_noast
