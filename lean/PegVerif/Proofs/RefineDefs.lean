import PegVerif.Proofs.SemLemmas
import PegVerif.Proofs.MachineLemmas
import PegVerif.Proofs.CodeLemmas
import PegVerif.Proofs.CompileLemmas
import PegVerif.Proofs.LeadLemmas
import PegVerif.Proofs.LabelLemmas
/-
  Vocabulary of the refinement theorem: the fragments of expressions it covers (`Expr.fine`,
  `Expr.fineS`), the abstract memo invariant (`MInv`), what is assumed of a program with token buffer
  and memo table (`World`, with the memo key `Grammar.idOf`), what every world says of an emitted
  function (`FuncOf`), and the code of the `*` loop (`loopCode`).
-/
namespace PegVerif

mutual
  /-- The fragment without `-switch` nodes: no `TypeString`, terminals below the end symbol, and every
      referenced rule has an emitted function in `P`. -/
  def Expr.fine (P : Program) : Expr → Prop
    | .dot => True
    | .chr c => c ≠ END
    | .rng _ hi => hi < END
    | .str _ => False
    | .name n => (P.find n).isSome = true
    | .inl _ e => e.fine P
    | .pred _ => True
    | .stmt _ => True
    | .act _ => True
    | .seq es => fineL P es
    | .alt es => fineL P es
    | .ualt _ _ => False
    | .peekFor e => e.fine P
    | .peekNot e => e.fine P
    | .query e => e.fine P
    | .star e => e.fine P
    | .plus e => e.fine P
    | .push e _ => e.fine P
    | .ipush e _ => e.fine P
    | .nil => True
  def fineL (P : Program) : List Expr → Prop
    | [] => True
    | e :: es => e.fine P ∧ fineL P es
end

mutual
  /-- As `Expr.fine`, and a `TypeUnorderedAlternate` whose cases are in the fragment and whose elided
      terminal tests are justified by the case keys (`casesLeadOK`). -/
  def Expr.fineS (P : Program) : Expr → Prop
    | .dot => True
    | .chr c => c ≠ END
    | .rng _ hi => hi < END
    | .str _ => False
    | .name n => (P.find n).isSome = true
    | .inl _ e => e.fineS P
    | .pred _ => True
    | .stmt _ => True
    | .act _ => True
    | .seq es => fineSL P es
    | .alt es => fineSL P es
    | .ualt ks es => es ≠ [] ∧ fineSL P es ∧ casesLeadOK ks es = true
    | .peekFor e => e.fineS P
    | .peekNot e => e.fineS P
    | .query e => e.fineS P
    | .star e => e.fineS P
    | .plus e => e.fineS P
    | .push e _ => e.fineS P
    | .ipush e _ => e.fineS P
    | .nil => True
  def fineSL (P : Program) : List Expr → Prop
    | [] => True
    | e :: es => e.fineS P ∧ fineSL P es
end

theorem Expr.fine.fineS_all {P : Program} :
    (∀ e : Expr, e.fine P → e.fineS P) ∧ (∀ es : List Expr, fineL P es → fineSL P es) := by
  apply Expr.fine.mutual_induct
  all_goals intros
  all_goals simp_all [Expr.fine, Expr.fineS, fineL, fineSL]

theorem Expr.fine.fineS {P : Program} : ∀ {e : Expr}, e.fine P → e.fineS P :=
  fun {e} => Expr.fine.fineS_all.1 e

theorem fineL.fineSL {P : Program} : ∀ {es : List Expr}, fineL P es → fineSL P es :=
  fun {es} => Expr.fine.fineS_all.2 es

theorem fineSL_mem {P : Program} : ∀ {es : List Expr}, fineSL P es → ∀ e ∈ es, e.fineS P
  | [], _, e, he => by cases he
  | a :: as, h, e, he => by
    simp only [fineSL] at h
    cases he with
    | head => exact h.1
    | tail _ he' => exact fineSL_mem h.2 e he'

/-- The invariant of the memo table, abstract in the case analyses: a predicate on the table and on
    `maxToken.end`, monotone in the latter.  The concrete one is `MemoOK` (`memoInv`, RefineTop.lean),
    the only instance; it is a class so that `Pre`, `Succ`, `Failed`, `Good` need not carry it. -/
class MInv where
  ok : List MemoEntry → Nat → Prop
  mono : ∀ {m : List MemoEntry} {e e' : Nat}, e ≤ e' → ok m e → ok m e'

/-- The memo key of rule `n`: the `id` of the first rule of that name. -/
def Grammar.idOf (G : Grammar) (n : String) : Nat := ((G.find n).map (·.id)).getD 0

/-- Static facts about the program and the run that R relies on: the world of parsers with token
    buffer and memo table (`WorldN`, `WorldNS` are the `-noast` ones). -/
structure World (P : Program) (cfg : Cfg) (env : CEnv) (G : Grammar) (inp : List Sym) : Prop where
  ast : cfg.ast = true
  envAst : env.ast = true
  inpOK : ∀ c ∈ inp, c ≠ END
  /-- `CheckAlwaysSucceeds` is sound: a rule called without failure branch never fails. -/
  always : ∀ n, env.always n = true → ∀ p evs, ¬ Eval G cfg.rho inp (.name n) p .fail evs
  /-- Every emitted function is the emission of its rule's body. -/
  rules : ∀ n cr, P.find n = some cr → ∃ (r : Rule) (b : Expr) (kr : Nat) (stb : CSt),
    G.body n = some b ∧ cr = (ruleFunc env r b kr stb).1 ∧ kr < stb.label ∧ Uniq cr ∧
    (∀ l ∈ jumps cr, env.used l = true) ∧ b.fineS P ∧ r.id = G.idOf n ∧ (∃ e, b = .ipush e n)
  /-- Memo keys identify rules. -/
  idInj : ∀ n1 n2, (P.find n1).isSome = true → (P.find n2).isSome = true → G.idOf n1 = G.idOf n2 → n1 = n2

/-- `cr` is the emission of the body `b` of the rule `r`, with failure label `kr` and counters `stb`:
    what every world (`World`, `WorldN`, `WorldNS`) says of an emitted function, by name. -/
structure FuncOf (env : CEnv) (cr : Code) (r : Rule) (b : Expr) (kr : Nat) (stb : CSt) : Prop where
  code : cr = (ruleFunc env r b kr stb).1
  lt : kr < stb.label
  uniq : Uniq cr
  used : ∀ l ∈ jumps cr, env.used l = true

theorem FuncOf.suniq {env cr r b kr stb} (h : FuncOf env cr r b kr stb) : SUniq cr :=
  h.code ▸ ruleFunc_suniq env r b kr stb

section
variable {P : Program} {cfg : Cfg} {env : CEnv} {G : Grammar} {inp : List Sym}

theorem World.body_of_find (hW : World P cfg env G inp) {n cr} (h : P.find n = some cr) :
    ∃ b, G.body n = some b := by
  obtain ⟨_, b, _, _, hb, _⟩ := hW.rules n cr h
  exact ⟨b, hb⟩

/-- `World.rules` read for the body `b` that the user already holds (`hb`), so that nobody identifies
    the body again. -/
theorem World.func (hW : World P cfg env G inp) {n cr b} (hfind : P.find n = some cr)
    (hb : G.body n = some b) :
    ∃ r kr stb e, FuncOf env cr r b kr stb ∧ r.id = G.idOf n ∧ b = .ipush e n := by
  obtain ⟨r, b', kr, stb, hb', hcode, hlt, huniq, hused, _, hid, e, hshape⟩ := hW.rules n cr hfind
  obtain rfl : b' = b := Option.some.inj (hb'.symm.trans hb)
  exact ⟨r, kr, stb, e, ⟨hcode, hlt, huniq, hused⟩, hid, hshape⟩

theorem World.body_fineS (hW : World P cfg env G inp) {n cr b} (hfind : P.find n = some cr)
    (hb : G.body n = some b) : b.fineS P := by
  obtain ⟨_, b', _, _, hb', _, _, _, _, hfine, _⟩ := hW.rules n cr hfind
  obtain rfl : b' = b := Option.some.inj (hb'.symm.trans hb)
  exact hfine

/-- `World` does not mention the memoisation switch. -/
theorem World.withMemo (hW : World P cfg env G inp) (b : Bool) :
    World P { cfg with memo := b } env G inp :=
  ⟨hW.ast, hW.envAst, hW.inpOK, hW.always, hW.rules, hW.idInj⟩

end

section
variable (env : CEnv)

/-- The loop of `e*` (also the second half of `e+`): labels `again`/`out` allocated anywhere below
    the body's labels.  The body is compiled without `parentDetect`: neither `e+` nor `e*` hands
    the flags down (the body is re-run at later positions). -/
def loopCode (e : Expr) (again out : Nat) (stb : CSt) : Code :=
  env.lbl again ++ [Instr.bb, Instr.save out] ++ (compile env e out false false stb).code ++
    [Instr.goto again] ++ env.lbl out ++ [Instr.restore out, Instr.be]

end

end PegVerif
