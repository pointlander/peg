import PegVerif.Model.Cli
/-
  What the C18 theorems rest on.

  * `cli` ends in `observe`, and `main` itself puts in the exit status and the message
    (`cli_eq_observe`); exit status 2 comes only from `closeAllPanics` (`parse_ne_panic`).
  * -inline, -switch, -noast reach `cli` only through `compileClass`, which ignores them, so
    `cli s = cli s.norm` by unfolding (`cli_norm`); -strict is read only next to `t.werr != nil`
    (`cli_strict`).  That the options are irrelevant for the REAL program is what the harness checks
    (all eight combinations on every text).
  * Everything else about a run without -version is one fact about the finite table, `cli_summary`,
    decided by the kernel on the 2304 rows with the three options cleared (`forallCore`) and
    transported to all 18432 (`forall_of_core`).
-/
namespace PegVerif.Cli

def Scenario.norm (s : Scenario) : Scenario :=
  { s with inline := false, switch := false, noast := false }

theorem cli_norm (s : Scenario) : cli s = cli s.norm := by
  cases s; rfl

theorem Source.mem_all (x : Source) : x ∈ Source.all := by cases x <;> decide
theorem Grammar.mem_all (x : Grammar) : x ∈ Grammar.all := by cases x <;> decide
theorem Dest.mem_all (x : Dest) : x ∈ Dest.all := by cases x <;> decide
theorem Mode.mem_all (x : Mode) : x ∈ Mode.all := by cases x <;> decide
theorem mem_bools (x : Bool) : x ∈ bools := by cases x <;> decide

theorem Scenario.mem_all (s : Scenario) : s ∈ Scenario.all := by
  obtain ⟨a, b, c, d, e, f, g, h⟩ := s
  simp only [Scenario.all, List.mem_flatMap, List.mem_map]
  exact ⟨a, Source.mem_all a, b, Grammar.mem_all b, c, Dest.mem_all c, d, mem_bools d,
    e, mem_bools e, f, mem_bools f, g, mem_bools g, h, Mode.mem_all h, rfl⟩

/-- Every row with the three parser options cleared; no list is materialised. -/
def forallCore (p : Scenario → Bool) : Bool :=
  Source.all.all fun a => Grammar.all.all fun b => Dest.all.all fun c =>
  bools.all fun d => Mode.all.all fun h =>
    p ⟨a, b, c, d, false, false, false, h⟩

theorem forall_of_core {P : Scenario → Prop} [DecidablePred P]
    (hinv : ∀ s : Scenario, P s.norm → P s)
    (h : forallCore (fun s => decide (P s)) = true) : ∀ s, P s := by
  intro s
  apply hinv
  obtain ⟨a, b, c, d, e, f, g, h'⟩ := s
  simp only [forallCore, List.all_eq_true, decide_eq_true_eq] at h
  exact h a (Source.mem_all a) b (Grammar.mem_all b) c (Dest.mem_all c) d (mem_bools d)
    h' (Mode.mem_all h')

theorem Scenario.all_length : Scenario.all.length = 18432 := by
  -- the length of a `flatMap` is the sum of the lengths; the sums are over literals
  simp only [Scenario.all, List.length_flatMap, List.length_map]
  rfl

theorem observe_exit (e : Nat) (w : World) : (observe e w).exit = e := by
  unfold observe
  split <;> rfl

theorem observe_stderr (e : Nat) (w : World) : (observe e w).stderrNonEmpty = w.stderr := by
  unfold observe
  split <;> rfl

theorem classifyFile_ne_nothing (ps : List Piece) : classifyFile ps ≠ .nothing := by
  unfold classifyFile
  split <;> simp

theorem observe_destination_none_iff (e : Nat) (w : World) :
    (observe e w).destination = none ↔ (observe e w).written = .nothing := by
  unfold observe
  split
  · simp [classifyFile_ne_nothing]
  · by_cases h : classifyStdout w.stdout = .nothing <;> simp [h]

/-- -version: the banner, whether or not standard output takes it, and nothing else. -/
theorem cli_version {s : Scenario} (h : s.version = true) : cli s = ⟨0, false, .nothing, none⟩ := by
  simp only [cli, h, if_true, writeStdout]
  split <;> rfl

/-! ### only `closeAll` panics -/

theorem compile_ne_panic (s : Scenario) (o : Out) (w : World) : (compile s o w).1 ≠ .panic := by
  unfold compile
  -- keeping the `let`s makes `split` take the `if`s of the control flow, outermost first
  extract_lets c err w1
  split
  · simp
  split
  · simp
  split
  · simp
  split
  split <;> simp

theorem parseBody_ne_panic (s : Scenario) (o : Out) (w : World) : (parseBody s o w).1 ≠ .panic := by
  unfold parseBody
  split
  · simp
  split
  · simp
  exact compile_ne_panic _ _ _

theorem getIO_out_ne_panic {s : Scenario} (hc : s.closeFails = false) (n : Nat) (o : OutName) :
    getIO_out s n o ≠ .panic := by
  simp only [getIO_out, closeAllPanics, hc, Bool.false_and]
  split
  · split <;> simp
  · simp

theorem getIO_ne_panic {s : Scenario} (hc : s.closeFails = false) : getIO s ≠ .panic := by
  unfold getIO
  extract_lets o o'
  split
  · split
    · simp
    · exact getIO_out_ne_panic hc _ _
  · exact getIO_out_ne_panic hc _ _

theorem parse_ne_panic {s : Scenario} (hc : s.closeFails = false) : (parse s).1 ≠ .panic := by
  unfold parse
  split
  · simp
  · next h => exact absurd h (getIO_ne_panic hc)
  · simp [closeAllPanics, hc, parseBody_ne_panic]

/-- `main`: the outcome is observed after the exit status and, for a non-zero status, the message
    have been put in; a status above 1 (it is 2) is a panic in `parse`. -/
theorem cli_eq_observe (s : Scenario) :
    ∃ e w, cli s = observe e w ∧ (e ≠ 0 → w.stderr = true) ∧ (1 < e → (parse s).1 = .panic) := by
  unfold cli
  split
  · exact ⟨0, _, rfl, by simp, by simp⟩
  · split
    · exact ⟨0, _, rfl, by simp, by simp⟩
    · exact ⟨1, _, rfl, by simp, by simp⟩
    · next h => exact ⟨2, _, rfl, by simp, fun _ => by rw [h]⟩

/-! ### -strict is read only in the tail of `Compile`, next to `t.werr != nil` -/

theorem compile_strict {s : Scenario} (h : s.grammar ≠ .validWarn) (b : Bool) (o : Out) (w : World) :
    compile { s with strict := b } o w = compile s o w := by
  have : (compileClass s.grammar s.inline s.switch s.noast).warned = false := by
    revert h
    cases s.grammar <;> simp [compileClass]
  simp [compile, this]
  rfl

theorem cli_strict {s : Scenario} (h : s.grammar ≠ .validWarn) (b : Bool) :
    cli { s with strict := b } = cli s := by
  simp only [cli, parse, parseBody, compile_strict h]
  rfl

/-- Grammar readable and accepted (with its warnings, unless -strict), destination writable. -/
def Succeeds (s : Scenario) : Prop :=
  badSource s = false ∧ badDest s = false ∧
    (s.grammar = .validSilent ∨ (s.grammar = .validWarn ∧ s.strict = false))

/-- The deferred `closeAll` does not panic. -/
def CloseOk (s : Scenario) : Prop := s.closeFails = false ∨ opensFile s = false

instance : DecidablePred Succeeds := fun _ => by unfold Succeeds; infer_instance
instance : DecidablePred CloseOk := fun _ => by unfold CloseOk; infer_instance

/-- A run without -version writes a complete parser exactly when it `Succeeds` and exits with 0
    exactly when in addition `closeAll` does not panic; a run that succeeds touches only the
    requested destination, and says something exactly for a panic, a warning, or a dump next to a
    parser on standard output. -/
theorem cli_summary : ∀ s : Scenario, s.version = false →
    ((cli s).written = .complete ↔ Succeeds s) ∧
    ((cli s).exit = 0 ↔ Succeeds s ∧ CloseOk s) ∧
    (Succeeds s → (cli s).destination = some (requested s) ∧
      ((cli s).stderrNonEmpty = true ↔
        ¬ CloseOk s ∨ s.grammar = .validWarn ∨ (s.dump = true ∧ requested s = .stdout))) :=
  -- on a constructor with the flags cleared, `Succeeds`, `CloseOk`, `requested`, `.dump`, `.version`
  -- reduce to what they are on the original (none reads the flags), so `h` fits after `cli_norm`
  forall_of_core (fun s h => by cases s; rw [cli_norm]; exact h) (by decide +kernel)

/-! ### The four parts of `cli_summary`, by name -/

theorem cli_complete_iff {s : Scenario} (hv : s.version = false) :
    (cli s).written = .complete ↔ Succeeds s := (cli_summary s hv).1

theorem cli_exit0_iff {s : Scenario} (hv : s.version = false) :
    (cli s).exit = 0 ↔ Succeeds s ∧ CloseOk s := (cli_summary s hv).2.1

theorem cli_dest_of_succeeds {s : Scenario} (hv : s.version = false) (h : Succeeds s) :
    (cli s).destination = some (requested s) := ((cli_summary s hv).2.2 h).1

theorem cli_stderr_iff {s : Scenario} (hv : s.version = false) (h : Succeeds s) :
    (cli s).stderrNonEmpty = true ↔
      ¬ CloseOk s ∨ s.grammar = .validWarn ∨ (s.dump = true ∧ requested s = .stdout) :=
  ((cli_summary s hv).2.2 h).2

/-- With a warned grammar -strict is read, but makes no difference when the source or the
    destination is bad: for `/dev/full` and a full standard output both ways end in `log.Fatal`
    with nothing written, everywhere else `Compile` is not reached. -/
theorem warn_strict : ∀ s : Scenario, s.grammar = .validWarn →
    (badSource s = true ∨ badDest s = true) →
    cli { s with strict := true } = cli { s with strict := false } :=
  forall_of_core
    (fun s h => by
      cases s
      intro hg hc
      -- `{ strict := true, .. }` leaves the other fields to unification with the goal
      rw [cli_norm { strict := true, .. }, cli_norm { strict := false, .. }]
      exact h hg hc)
    (by decide +kernel)

end PegVerif.Cli
