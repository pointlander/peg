import PegVerif.Proofs.FrontHex
/-
  Case folding in the relational semantics, as in Proofs/FrontHex.lean: rule `DoubleChar` (one
  character of a double-quoted literal or of a `[[…]]` class) on EVERY raw character `c`, by a
  derivation built by hand on facts read off the numbered grammar.  A character written as an escape
  goes through rule `Escape` first: whatever spelling `Escape` reads as the character `c`,
  `DoubleChar` reads as `foldNode c` (`fold_of_char`), so the one evaluation of the escape table
  (Props/C10Escapes.lean) serves both positions.
-/
namespace PegVerif

section
variable {G : Grammar} {ρ : String → Nat → Bool} {inp : List Sym}

def startsWithBackslash : Expr → Bool
  | .seq (.chr 92 :: _) => true
  | _ => false

theorem startsWithBackslash_fails {e : Expr} {p : Nat} (h : startsWithBackslash e = true)
    (h0 : inp[p]? ≠ some 92) : Eval G ρ inp e p .fail [] := by
  unfold startsWithBackslash at h
  split at h
  · exact Eval.seq_fail (Eval.chr_fail h0)
  · cases h

end

/-! ### the grammar-dependent facts, read off the numbered grammar (rule numbers: Proofs/FrontLemmas.lean) -/

theorem charI : pegBodies[rChar]? =
    some (.ipush (.alt [.ref rEscape,
      .seq [.peekNot (.chr 92), .push .dot rPegText, .ref rCharAction]]) rChar) := by kernel_rfl
theorem doubleCharI :
    pegBodies[rDoubleChar]? = some (.ipush (.seq [.ref rChar, .ref rFoldAction]) rDoubleChar) := by
  kernel_rfl
theorem charActionI :
    pegBodies[rCharAction]? = some (.ipush (.act " p.AddCharacter(text) ") rCharAction) := by kernel_rfl
theorem foldActionI :
    pegBodies[rFoldAction]? = some (.ipush (.act " p.AddCaseFold() ") rFoldAction) := by kernel_rfl
theorem charKindI : pegKinds[rChar]? = some .other := by kernel_rfl
theorem doubleCharKindI : pegKinds[rDoubleChar]? = some .other := by kernel_rfl
theorem charActionKindI :
    pegKinds[rCharAction]? = some (.act fun text => some [.addCharacter text]) := by kernel_rfl
theorem foldKindI : pegKinds[rFoldAction]? = some (.act fun _ => some [.addCaseFold]) := by kernel_rfl

theorem escapeAlts_backslash : escapeAlts.all startsWithBackslash = true := by kernel_rfl
theorem char_body :
    pegLinked.G.body "Char" =
      some (.ipush (.alt [.name "Escape",
        .seq [.peekNot (.chr 92), .push .dot "PegText", .name charAction]]) "Char") :=
  pegNumbered.body rChar _ charI
theorem doubleChar_body :
    pegLinked.G.body "DoubleChar" =
      some (.ipush (.seq [.name "Char", .name foldAction]) "DoubleChar") :=
  pegNumbered.body rDoubleChar _ doubleCharI
theorem charAction_body :
    pegLinked.G.body charAction =
      some (.ipush (.act " p.AddCharacter(text) ") charAction) := pegNumbered.body rCharAction _ charActionI
theorem foldAction_body :
    pegLinked.G.body foldAction = some (.ipush (.act " p.AddCaseFold() ") foldAction) :=
  pegNumbered.body rFoldAction _ foldActionI

noncomputable def doubleCharForest : List TokTree :=
  [.node ⟨"DoubleChar", 0, 1⟩
    [.node ⟨"Char", 0, 1⟩ [.node ⟨"PegText", 0, 1⟩ [], .node ⟨charAction, 1, 1⟩ []],
     .node ⟨foldAction, 1, 1⟩ []]]

theorem escape_fails_raw {inp : List Sym} (h0 : inp[0]? ≠ some 92) :
    Eval pegLinked.G (fun _ _ => false) inp (.name "Escape") 0 .fail [] := by
  have hall : ∀ e ∈ escapeAlts, Eval pegLinked.G (fun _ _ => false) inp e 0 .fail [] :=
    fun e he => startsWithBackslash_fails (List.all_eq_true.mp escapeAlts_backslash e he) h0
  have hne : escapeAlts ≠ [] := by rw [escapeAlts_split]; simp
  exact Eval.name escape_body (Eval.ipush_fail rfl (alt_all_fail escapeAlts 0 hne hall))

theorem doubleChar_raw_eval (c : Sym) (hc : c ≠ 92) (tl : List Sym) :
    ∃ evs, Eval pegLinked.G (fun _ _ => false) (c :: tl) (.name "DoubleChar") 0
      (.ok 1 doubleCharForest) evs := by
  let inp : List Sym := c :: tl
  have h0 : inp[0]? = some c := rfl
  have h92 : inp[0]? ≠ some 92 := by
    intro h; simp [inp] at h; exact hc h
  have e1 : Eval pegLinked.G (fun _ _ => false) inp (.peekNot (.chr 92)) 0 (.ok 0 []) [] :=
    Eval.peekNot_ok (Eval.chr_fail h92)
  have e2 : Eval pegLinked.G (fun _ _ => false) inp (.push .dot "PegText") 0
      (.ok 1 [.node ⟨"PegText", 0, 1⟩ []]) ([] ++ [⟨"PegText", 0, 1⟩]) :=
    Eval.push_ok rfl (Eval.dot_ok h0)
  have e3 : Eval pegLinked.G (fun _ _ => false) inp (.name charAction) 1
      (.ok 1 [.node ⟨charAction, 1, 1⟩ []]) [⟨charAction, 1, 1⟩] :=
    Eval.name charAction_body Eval.ipush_act
  have eseq := Eval.seq_ok e1 (Eval.seq_ok e2 (Eval.seq_ok e3 Eval.seq_nil))
  simp only [List.nil_append, List.append_nil] at eseq
  have ealt := Eval.alt_next (es := []) (escape_fails_raw h92) (Eval.alt_last eseq)
  have echar := Eval.name char_body (Eval.ipush_ok (r := "Char") rfl ealt)
  have e4 : Eval pegLinked.G (fun _ _ => false) inp (.name foldAction) 1
      (.ok 1 [.node ⟨foldAction, 1, 1⟩ []]) [⟨foldAction, 1, 1⟩] :=
    Eval.name foldAction_body Eval.ipush_act
  have eseq2 := Eval.seq_ok echar (Eval.seq_ok e4 Eval.seq_nil)
  have := Eval.name doubleChar_body (Eval.ipush_ok (r := "DoubleChar") rfl eseq2)
  exact ⟨_, this⟩

theorem doubleChar_raw_actions (c : Sym) (tl : List Sym) :
    (execute pegActs (c :: tl) (postorderL doubleCharForest)).map
      (fun evs => runEvents pegTable evs BState.init) = some (.ok ⟨[foldNode c], 0, []⟩) := by
  have hslice : slice? (c :: tl) 0 1 = some [c] := by simp [slice?, List.extract]
  -- the same tokens by rule number
  have ht : postorderL doubleCharForest =
      [⟨rPegText, 0, 1⟩, ⟨rCharAction, 1, 1⟩, ⟨rChar, 0, 1⟩, ⟨rFoldAction, 1, 1⟩, ⟨rDoubleChar, 0, 1⟩].map (ITok.toToken pegNames) := rfl
  have hx : execI pegKinds (c :: tl) ExecState.init
      [⟨rPegText, 0, 1⟩, ⟨rCharAction, 1, 1⟩, ⟨rChar, 0, 1⟩, ⟨rFoldAction, 1, 1⟩, ⟨rDoubleChar, 0, 1⟩] =
      some [(rCharAction, ⟨0, 1, [c]⟩), (rFoldAction, ⟨0, 1, [c]⟩)] := by
    simp [execI, textKindI, charActionKindI, charKindI, foldKindI, doubleCharKindI, hslice]
  have hr : runI pegKinds [(rCharAction, ⟨0, 1, [c]⟩), (rFoldAction, ⟨0, 1, [c]⟩)] BState.init =
      some (.ok ⟨[foldNode c], 0, []⟩) := by
    simp only [runI, charActionKindI, foldKindI, applyOps, Op.apply, addCharacterS, BState.init,
      BState.pushFront, builder_addCaseFold_char]
  exact pegNumbered.run_sound ht hx hr

/-! ### one character position of a double-quoted literal or `[[…]]` class -/

/-- What ONE character position of a double-quoted literal / `[[…]]` class becomes: rule
    `DoubleChar` of `G` must consume exactly the spelling `sp`, and its actions must leave exactly
    one node and no error; `none` otherwise. -/
def frontFoldCore (G : Grammar) (acts : List String) (tbl : List (String × Option (List Call)))
    (sp : List Sym) : Option Node :=
  match evalF G (fun _ _ => false) sp 64 (.name "DoubleChar") 0 with
  | some (.ok p forest, _) =>
    if p = sp.length then
      match execute acts sp (postorderL forest) with
      | some evs =>
        match runEvents tbl evs BState.init with
        | .ok st =>
          match st.items, st.errs with
          | [n], [] => some n
          | _, _ => none
        | _ => none
      | none => none
    else none
  | _ => none

/-- … of the front end (`none`: `DoubleChar` does not read exactly this spelling, or reports it). -/
def frontFold (sp : List Sym) : Option Node :=
  let L := linkGrammar pegFrontRules
  frontFoldCore L.G (L.actions.map (·.1)) (actionTable L) sp

theorem frontFold_eq (sp : List Sym) :
    frontFold sp = frontFoldCore pegLinked.G pegActs pegTable sp := by
  unfold frontFold
  simp only [pegLinked_eq, pegActs_eq, pegTable_eq]

/-- `frontFoldCore` after the part it shares with `frontCore` (`none`: the numbered run gave no
    answer). -/
def foldOf (len : Nat) : Option (Option (Nat × Out BState)) → Option (Option Node)
  | none => none
  | some none => some none
  | some (some (p, .ok st)) =>
    some (if p = len then
      match st.items, st.errs with
      | [n], [] => some n
      | _, _ => none
    else none)
  | some (some (_, _)) => some none

/-- `frontFoldCore` runs with fuel 64. -/
theorem frontFoldCore_eq {names B K G acts tbl} (H : Numbered names B K G acts tbl) {i : Nat}
    (hn : nm names i = "DoubleChar") {sp : List Sym} {fuel : Nat} (hf : fuel ≤ 64) {d : Option Node}
    (h : foldOf sp.length (pipeI B K i sp fuel) = some d) : frontFoldCore G acts tbl sp = d := by
  rcases hp : pipeI B K i sp fuel with _ | _ | ⟨p, o⟩ <;> rw [hp] at h
  · cases h
  · cases h
    obtain ⟨evs, h1⟩ := pipeI_sound_fail H hf hp
    simp only [frontFoldCore, ← hn, h1]
  · obtain ⟨f, evs, evts, h1, h2, h3⟩ := pipeI_sound_ok H hf hp
    cases o with
    | ok st => cases h; simp only [frontFoldCore, ← hn, h1, h2, h3]
    | panic m => cases h; simp only [frontFoldCore, ← hn, h1, h2, h3]; split <;> rfl
    | unsupported m => cases h; simp only [frontFoldCore, ← hn, h1, h2, h3]; split <;> rfl

/-! ### a character written as an escape, in a case-insensitive position -/

/-- `DoubleChar` reaches `Escape` six levels further in (the reference to `DoubleChar`, its `ipush`,
    the `seq`, the reference to `Char`, its `ipush`, the `alt`), which the one `simp only` unfolds; its
    tokens are those of `Escape`, then `Char`, the fold action, `DoubleChar`. -/
theorem doubleChar_of_escape (sp : List Sym) (fuel p : Nat) (t : List ITok)
    (h : evalI pegBodies sp fuel (.ref rEscape) 0 = .ok p t) :
    evalI pegBodies sp (fuel + 6) (.ref rDoubleChar) 0 =
      .ok p (t ++ [⟨rChar, 0, p⟩, ⟨rFoldAction, p, p⟩, ⟨rDoubleChar, 0, p⟩]) := by
  simp only [evalI, stepI, doubleCharI, charI, foldActionI, tokI, seqI, altI, IRes.andThen,
    IRes.orElse, h, List.append_nil, List.append_assoc, List.cons_append, List.nil_append]

/-- The builder holds exactly one Character leaf.  The id is matched as the literal `0`, not as a
    wildcard, so that a `split` on this function yields the node in the form `Node.leaf .character [c]`
    in which `builder_addCaseFold_char` and `foldNode` speak of it. -/
def oneChar : Option (Option (Nat × Out BState)) → Bool
  | some (some (_, .ok ⟨[.mk .character [_] 0 []], _, _⟩)) => true
  | _ => false

/-- Three more tokens, one more event, `AddCaseFold` on the leaf. -/
theorem pipeI_doubleChar_of_escape {sp : List Sym} {fuel p c n : Nat} {errs : List (List Sym)}
    (h : pipeI pegBodies pegKinds rEscape sp fuel =
      some (some (p, .ok ⟨[.leaf .character [c]], n, errs⟩))) :
    pipeI pegBodies pegKinds rDoubleChar sp (fuel + 6) =
      some (some (p, .ok ⟨[foldNode c], n, errs⟩)) := by
  obtain ⟨t, evs, he, hx, hrun⟩ := pipeI_eq_some.mp h
  obtain ⟨s', hs'⟩ := execI_append _ _ _ hx
  have hx' := hs' [⟨rChar, 0, p⟩, ⟨rFoldAction, p, p⟩, ⟨rDoubleChar, 0, p⟩] [(rFoldAction, s')]
    (by simp [execI, charKindI, doubleCharKindI, foldKindI])
  have hrun' := runI_append _ _ _ [(rFoldAction, s')] hrun
  simp only [runI, foldKindI, applyOps, Op.apply, builder_addCaseFold_char] at hrun'
  exact pipeI_eq_some.mpr ⟨_, _, doubleChar_of_escape sp fuel p t he, hx', hrun'⟩

/-- What `DoubleChar` makes of a spelling that means `d` to `Escape`. -/
def foldDen : EscDen → Option Node
  | .cp c => some (foldNode c)
  | .err _ => none

/-- Why ONE evaluation of the escape table serves both positions a character can stand in: what
    `charOf` and `oneChar` find after a run of `Escape` decides what `foldOf` finds after the run of
    `DoubleChar` with six units of fuel more. -/
theorem fold_of_char (sp : List Sym) (d : EscDen) {fuel : Nat}
    (h1 : charOf sp.length (pipeI pegBodies pegKinds rEscape sp fuel) = some (some d))
    (h2 : oneChar (pipeI pegBodies pegKinds rEscape sp fuel) = true) :
    foldOf sp.length (pipeI pegBodies pegKinds rDoubleChar sp (fuel + 6)) = some (foldDen d) := by
  unfold oneChar at h2
  split at h2
  · next p c n errs hr =>
    rw [pipeI_doubleChar_of_escape hr]
    rw [hr] at h1
    -- `d` says whether errors were recorded
    simp only [charOf, foldOf] at h1 ⊢
    split at h1
    · next hpl =>
      rw [if_pos hpl]
      cases errs with
      | nil => simp only [Option.some.injEq] at h1; cases h1; rfl
      | cons e es => simp only [Option.some.injEq] at h1; cases h1; rfl
    · simp at h1
  · cases h2

end PegVerif
