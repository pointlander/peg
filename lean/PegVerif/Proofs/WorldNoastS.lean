import PegVerif.Proofs.WorldNoast
import PegVerif.Proofs.WorldSwitch
/-
  `-noast -switch`: the program emitted with `o.ast = false` for a grammar that may contain `-switch`
  nodes (`-inline` off) meets `WorldNS` under `GrammarOKNS`, the conjunction of `GrammarOKS` and
  `GrammarOKN K` (`Model/Checkers.lean`; `Expr.okN` already descends into the cases of a `ualt`).
  `compileAll_find` does not depend on `ast`, so only the checker is new.
-/
namespace PegVerif
open Noast

theorem GrammarOKNS_of_noSwitch {K : NKit} {G : Grammar} (hG : GrammarOK G = true)
    (hN : GrammarOKN K G = true) : GrammarOKNS K G = true := by
  simp only [GrammarOKNS, Bool.and_eq_true]
  exact ⟨GrammarOK.toS hG, hN⟩

/-- `compileAll_worldGen` without AST support. -/
theorem compileAll_worldNSGen {K : NKit} {G : Grammar} {o : Opts} {cfg : Cfg} {inp : List Sym}
    (hast : o.ast = false) (hcfg : cfg.ast = false) (hinp : ∀ c ∈ inp, c ≠ END)
    (hfine : ∀ n r kr, G.find n = some r → ((compileAll o G).find n).isSome = true →
      slotOf o (rulesCount G) r kr = .func →
      (bodyOf o G r).fineS (compileAll o G) ∧ (bodyOf o G r).okN K)
    (halways : ∀ n, alwaysSucceeds G n = true →
      ∀ p evs, ¬ Eval (expandG o G) cfg.rho inp (.name n) p .fail evs) :
    WorldNS K (compileAll o G) cfg (realEnv o G) (expandG o G) inp where
  ast := hcfg
  envAst := hast
  inpOK := hinp
  always := halways
  rules := by
    intro n cr hfind
    obtain ⟨r, kr, stb, hE⟩ := compileAll_find hfind
    exact ⟨r, _, kr, stb, hE.body, hE.code, hE.lt, hE.uniq, hE.used,
      hfine n r kr hE.find (by rw [hfind]; rfl) hE.slot⟩

theorem compileAll_worldNS {K : NKit} {G : Grammar} {o : Opts} {cfg : Cfg} {inp : List Sym}
    (hinl : o.inline = false) (hast : o.ast = false)
    (hcfg : cfg.ast = false)
    (hinp : ∀ c ∈ inp, c ≠ END)
    (hG : GrammarOKNS K G = true)
    (halways : ∀ n, alwaysSucceeds G n = true →
      ∀ p evs, ¬ Eval G cfg.rho inp (.name n) p .fail evs) :
    WorldNS K (compileAll o G) cfg (realEnv o G) G inp := by
  simp only [GrammarOKNS, Bool.and_eq_true] at hG
  have := compileAll_worldNSGen (K := K) (o := o) (cfg := cfg) hast hcfg hinp
    (fun _ r _ hr _ hslot => ⟨GrammarOKS.fineS hinl hG.1 hr hslot,
      bodyOf_noinline hinl G r ▸ GrammarOKN.rule hG.2 hr⟩)
    (by rwa [expandG_noinline hinl])
  rwa [expandG_noinline hinl] at this

end PegVerif

#print axioms PegVerif.compileAll_worldNS
