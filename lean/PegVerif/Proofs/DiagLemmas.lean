import PegVerif.Model.Diag
import PegVerif.Proofs.SyntaxLemmas
import PegVerif.Proofs.CoreLemmas
/-
  The two analyses behind the diagnostics of `Compile` (property C15), each turned once into a derivation
  without fuel: `Run` for `checkRecursion`, `Marks` for `countRules`.  `checkRec_run` and `countRec_marks`
  are the only places where fuel is counted; everything else is an induction on the derivation.
-/
namespace PegVerif

/-- The name resolves (`t.Rules[name] != nil`). -/
def Defd (G : Grammar) (n : String) : Prop := ∃ r, G.find n = some r

theorem Defd.of_mem {G : Grammar} {r : Rule} (h : r ∈ G.rules) : Defd G r.name :=
  Option.isSome_iff_exists.mp (List.find?_isSome.mpr ⟨r, h, by simp⟩)

/-- The source of a `Refers` path is defined if its target is. -/
theorem Defd.of_star {G : Grammar} {b n : String} (h : Star (Refers G) b n) (hd : Defd G n) : Defd G b := by
  cases h with
  | refl => exact hd
  | step h _ => exact let ⟨r, hr, _⟩ := h; ⟨r, hr⟩

theorem depth_pos (e : Expr) : 1 ≤ e.depth := by
  cases e <;> simp only [Expr.depth] <;> omega

theorem depthL_mem {e : Expr} {es : List Expr} (h : e ∈ es) : e.depth ≤ depthL es := by
  induction es with
  | nil => cases h
  | cons a as ih =>
    simp only [depthL]
    cases h with
    | head => omega
    | tail _ h' => have := ih h'; omega

theorem budget_mono (rs : List Rule) {m m' : List String} (h : ∀ x, x ∈ m → x ∈ m') :
    budget rs m' ≤ budget rs m := by
  induction rs with
  | nil => exact Nat.le_refl _
  | cons r rs ih =>
    simp only [budget, List.contains_iff_mem]
    by_cases h1 : r.name ∈ m
    · rw [if_pos h1, if_pos (h _ h1)]; omega
    · rw [if_neg h1]; split <;> omega

theorem budget_enter {rs : List Rule} {r : Rule} {m : List String} (hr : r ∈ rs) (hm : r.name ∉ m) :
    budget rs (r.name :: m) + r.body.depth + 1 ≤ budget rs m := by
  induction rs with
  | nil => cases hr
  | cons q qs ih =>
    simp only [budget, List.contains_iff_mem, List.mem_cons]
    cases hr with
    | head =>
      -- `r` itself: free under the new mark, `depth + 1` before
      have := budget_mono qs (m := m) (m' := r.name :: m) fun x hx => List.mem_cons_of_mem _ hx
      rw [if_pos (.inl rfl), if_neg hm]; omega
    | tail _ h' =>
      have := ih h'
      by_cases h1 : q.name ∈ m
      · rw [if_pos (.inr h1), if_pos h1]; omega
      · rw [if_neg h1]; split <;> omega

/-- Fuel that suffices for a call of `checkRec` or `countRec` on `e` under the marks `m`. -/
def need (G : Grammar) (m : List String) (e : Expr) : Nat := e.depth + budget G.rules m

theorem need_zero {G : Grammar} {m : List String} {e : Expr} : ¬ need G m e ≤ 0 := by
  have := depth_pos e
  simp [need]; omega

theorem need_child {G : Grammar} {m : List String} {c e : Expr} {f : Nat} (h : c.depth < e.depth)
    (hf : need G m e ≤ f + 1) : need G m c ≤ f := by
  simp only [need] at hf ⊢; omega

theorem need_ref {G : Grammar} {e : Expr} {n : String} {r : Rule} {m : List String} {f : Nat}
    (hfind : G.find n = some r) (hm : n ∉ m) (hf : need G m e ≤ f + 1) : need G (n :: m) r.body ≤ f := by
  obtain ⟨hr, rfl⟩ := Grammar.find_spec hfind
  have := budget_enter hr hm
  have := depth_pos e
  simp only [need] at hf ⊢; omega

theorem need_mono {G : Grammar} {m m' : List String} (e : Expr) (h : ∀ x, x ∈ m → x ∈ m') :
    need G m' e ≤ need G m e := by
  have := budget_mono G.rules h
  simp [need]; omega

theorem need_top {G : Grammar} {r : Rule} (hr : r ∈ G.rules) : need G [r.name] r.body ≤ G.diagFuel := by
  have := budget_enter (m := []) hr (by simp)
  simp [need, Grammar.diagFuel]; omega

section Closure
variable {α : Type} {R : α → α → Prop}

theorem Star.trans {a b c : α} (h1 : Star R a b) (h2 : Star R b c) : Star R a c := by
  induction h1 with
  | refl => exact h2
  | step h _ ih => exact .step h (ih h2)

theorem Plus.iff_step_star {a c : α} : Plus R a c ↔ ∃ b, R a b ∧ Star R b c := by
  constructor
  · intro h
    induction h with
    | single h => exact ⟨_, h, .refl _⟩
    | step h _ ih => exact let ⟨_, h1, h2⟩ := ih; ⟨_, h, .step h1 h2⟩
  · rintro ⟨b, h, hs⟩
    induction hs generalizing a with
    | refl => exact .single h
    | step h' _ ih => exact .step h (ih h')

theorem Star.mono {S : α → α → Prop} (hRS : ∀ a b, R a b → S a b) {a b : α} (h : Star R a b) : Star S a b := by
  induction h with
  | refl => exact .refl _
  | step h _ ih => exact .step (hRS _ _ h) ih

theorem Plus.mono {S : α → α → Prop} (hRS : ∀ a b, R a b → S a b) {a b : α} (h : Plus R a b) : Plus S a b := by
  induction h with
  | single h => exact .single (hRS _ _ h)
  | step h _ ih => exact .step (hRS _ _ h) ih

inductive StepsN (R : α → α → Prop) : Nat → α → α → Prop where
  | zero (a : α) : StepsN R 0 a a
  | succ {n : Nat} {a b c : α} : R a b → StepsN R n b c → StepsN R (n + 1) a c

theorem Star.toStepsN {a b : α} (h : Star R a b) : ∃ n, StepsN R n a b := by
  induction h with
  | refl => exact ⟨0, .zero _⟩
  | step h _ ih => obtain ⟨n, hn⟩ := ih; exact ⟨n + 1, .succ h hn⟩

theorem StepsN.toStar {n : Nat} {a b : α} (h : StepsN R n a b) : Star R a b := by
  induction h with
  | zero => exact .refl _
  | succ h _ ih => exact .step h ih
end Closure

section Runs
variable (g : Expr → Bool × List String)

theorem seqRun_true {es : List Expr} : (seqRun g es).1 = true ↔ ∃ e, e ∈ es ∧ (g e).1 = true := by
  induction es with
  | nil => simp [seqRun]
  | cons a as ih =>
    by_cases ha : (g a).1 = true
    · simp [seqRun, ha]
    · simp [seqRun, ha, ih]

theorem seqRun_mem {es : List Expr} {x : String} : x ∈ (seqRun g es).2 ↔
    ∃ pre e post, es = pre ++ e :: post ∧ (∀ p, p ∈ pre → (g p).1 = false) ∧ x ∈ (g e).2 := by
  induction es with
  | nil => simp [seqRun]
  | cons a as ih =>
    -- a split of `a :: as` is at `a`, or is `a` followed by a split of `as`
    have hsplit : (∃ pre e post, a :: as = pre ++ e :: post ∧ (∀ p, p ∈ pre → (g p).1 = false) ∧ x ∈ (g e).2) ↔
        x ∈ (g a).2 ∨ ((g a).1 = false ∧ x ∈ (seqRun g as).2) := by
      rw [ih]
      constructor
      · rintro ⟨pre, e, post, h, hpre, hx⟩
        cases pre with
        | nil => cases h; exact .inl hx
        | cons p pre =>
          cases h
          exact .inr ⟨hpre _ List.mem_cons_self, pre, e, post, rfl, fun q hq => hpre q (List.mem_cons_of_mem _ hq), hx⟩
      · rintro (hx | ⟨ha, pre, e, post, rfl, hpre, hx⟩)
        · exact ⟨[], a, as, rfl, nofun, hx⟩
        · exact ⟨a :: pre, e, post, rfl, by simpa [ha] using hpre, hx⟩
    rw [hsplit]
    by_cases ha : (g a).1 = true <;> simp [seqRun, ha]

theorem seqRun_false {es : List Expr} {e : Expr} (h : (seqRun g es).1 = false) (he : e ∈ es) :
    (g e).1 = false ∧ ∀ x, x ∈ (g e).2 → x ∈ (seqRun g es).2 := by
  have hall : ∀ p, p ∈ es → (g p).1 = false := fun p hp =>
    Bool.eq_false_iff.mpr fun hc => by simp [(seqRun_true g).mpr ⟨p, hp, hc⟩] at h
  obtain ⟨pre, post, rfl⟩ := List.append_of_mem he
  exact ⟨hall e he, fun x hx => (seqRun_mem g).mpr ⟨pre, e, post, rfl, fun p hp => hall p (by simp [hp]), hx⟩⟩

theorem seqRun_head {es : List Expr} {x : String} (h : (seqRun g es).2.head? = some x) :
    ∃ pre e post, es = pre ++ e :: post ∧ (∀ p, p ∈ pre → (g p).1 = false ∧ (g p).2 = []) ∧
      (g e).2.head? = some x := by
  induction es with
  | nil => simp [seqRun] at h
  | cons a as ih =>
    simp only [seqRun] at h
    by_cases ha : (g a).1 = true
    · exact ⟨[], a, as, rfl, nofun, by simpa [ha] using h⟩
    · simp only [ha] at h
      rcases head?_append_some h with h | ⟨hw, h⟩
      · exact ⟨[], a, as, rfl, nofun, h⟩
      · obtain ⟨pre, e, post, rfl, h2, h3⟩ := ih h
        exact ⟨a :: pre, e, post, rfl, by simpa [ha, hw] using h2, h3⟩

theorem altRun_true {es : List Expr} : (altRun g es).1 = true ↔ ∀ e, e ∈ es → (g e).1 = true := by
  induction es with
  | nil => simp [altRun]
  | cons a as ih => simp [altRun, ih]

theorem altRun_mem {es : List Expr} {x : String} : x ∈ (altRun g es).2 ↔ ∃ e, e ∈ es ∧ x ∈ (g e).2 := by
  induction es with
  | nil => simp [altRun]
  | cons a as ih => simp [altRun, ih]

theorem altRun_head {es : List Expr} {x : String} (h : (altRun g es).2.head? = some x) :
    ∃ e, e ∈ es ∧ (g e).2.head? = some x := by
  induction es with
  | nil => simp [altRun] at h
  | cons a as ih =>
    rcases head?_append_some (l := (g a).2) h with h | ⟨_, h⟩
    · exact ⟨a, List.mem_cons_self, h⟩
    · exact let ⟨e, he, h'⟩ := ih h; ⟨e, List.mem_cons_of_mem _ he, h'⟩
end Runs

/-! ### A. `checkRec`

  `checkRecursion` distinguishes, besides sequence and choice, three shapes of node (`IsRef`, `Wraps`,
  `Leaf`); `Run` is a derivation over these shapes, so an induction on it has seven cases. -/

/-- A `TypeName` node. -/
inductive IsRef : Expr → String → Prop
  | name (n : String) : IsRef (.name n) n
  | inl (n : String) (b : Expr) : IsRef (.inl n b) n

/-- `Wraps t o i`: `o` is a unary operator around `i`; `t`: the result of `i` is passed on
    (`e+ <e>`), otherwise it is replaced by "does not consume" (`&e !e e? e*`). -/
inductive Wraps : Bool → Expr → Expr → Prop
  | peekFor (e : Expr) : Wraps false (.peekFor e) e
  | peekNot (e : Expr) : Wraps false (.peekNot e) e
  | query (e : Expr) : Wraps false (.query e) e
  | star (e : Expr) : Wraps false (.star e) e
  | plus (e : Expr) : Wraps true (.plus e) e
  | push (e : Expr) (r : String) : Wraps true (.push e r) e
  | ipush (e : Expr) (r : String) : Wraps true (.ipush e r) e

/-- `Leaf b e`: `checkRecursion` answers `b` for `e` without looking further. -/
inductive Leaf : Bool → Expr → Prop
  | chr (c : Sym) : Leaf true (.chr c)
  | str (s : List Sym) : Leaf (!s.isEmpty) (.str s)
  | dot : Leaf true .dot
  | rng (lo hi : Sym) : Leaf true (.rng lo hi)
  | ualt (ks : List KeySet) (es : List Expr) : Leaf false (.ualt ks es)
  | pred (c : String) : Leaf false (.pred c)
  | stmt (c : String) : Leaf false (.stmt c)
  | act (c : String) : Leaf false (.act c)
  | nil : Leaf false .nil

section Shapes
variable {G : Grammar} {C : Expr → Prop} {t b : Bool} {o i e : Expr} {n a : String}

theorem IsRef.firstRef (h : IsRef e n) : FirstRefP C e a ↔ a = n := by
  cases h <;> exact ⟨fun h => by cases h; rfl, fun h => h ▸ by constructor⟩

theorem IsRef.mustConsume (h : IsRef e n) :
    MustConsume G e ↔ ∃ r, G.find n = some r ∧ MustConsume G r.body := by
  constructor
  · intro hm
    cases h <;> cases hm <;> exact ⟨_, ‹_›, ‹_›⟩
  · rintro ⟨r, hfind, hm⟩
    cases h
    · exact .name hfind hm
    · exact .inl hfind hm

theorem IsRef.synConsume (h : IsRef e n) : ¬ SynConsume e := by
  cases h <;> exact fun h => by cases h

theorem Wraps.firstRef (h : Wraps t o i) : FirstRefP C o n ↔ FirstRefP C i n := by
  cases h <;> exact ⟨fun h => by cases h; assumption, fun h => by constructor; exact h⟩

theorem Wraps.mustConsume (h : Wraps t o i) : MustConsume G o ↔ t = true ∧ MustConsume G i := by
  constructor
  · intro hm
    cases h <;> cases hm <;> exact ⟨rfl, ‹_›⟩
  · rintro ⟨rfl, hm⟩
    cases h <;> constructor <;> exact hm

theorem Wraps.synConsume (h : Wraps t o i) : SynConsume o ↔ t = true ∧ SynConsume i := by
  constructor
  · intro hm
    cases h <;> cases hm <;> exact ⟨rfl, ‹_›⟩
  · rintro ⟨rfl, hm⟩
    cases h <;> constructor <;> exact hm

theorem Wraps.depth (h : Wraps t o i) : o.depth = i.depth + 1 := by
  cases h <;> simp only [Expr.depth]

theorem Leaf.firstRef (h : Leaf b e) : ¬ FirstRefP C e n := by
  cases h <;> exact fun h => by cases h

theorem Leaf.mustConsume (h : Leaf b e) : MustConsume G e ↔ b = true := by
  cases h with
  | str s =>
    -- the one leaf whose answer depends on its content: `!s.isEmpty` against `s ≠ []`
    cases s with
    | nil => exact ⟨fun hm => by cases hm with | str hne => exact absurd rfl hne, fun hb => (by cases hb)⟩
    | cons c s => exact ⟨fun _ => rfl, fun _ => .str (List.cons_ne_nil c s)⟩
  | chr | dot | rng => exact ⟨fun _ => rfl, fun _ => by constructor⟩
  | ualt | pred | stmt | act | nil => exact ⟨fun hm => (by cases hm), fun hb => (by cases hb)⟩

theorem Leaf.synConsume (h : Leaf b e) : SynConsume e ↔ b = true := by
  cases h with
  | str s =>
    cases s with
    | nil => exact ⟨fun hm => by cases hm with | str hne => exact absurd rfl hne, fun hb => (by cases hb)⟩
    | cons c s => exact ⟨fun _ => rfl, fun _ => .str (List.cons_ne_nil c s)⟩
  | chr | dot | rng => exact ⟨fun _ => rfl, fun _ => by constructor⟩
  | ualt | pred | stmt | act | nil => exact ⟨fun hm => (by cases hm), fun hb => (by cases hb)⟩
end Shapes

-- The next two, with `Plus.mono`, are what `C15.leftRec_sub_leftRecW` is made of.

theorem FirstRefP.mono {C C' : Expr → Prop} (h : ∀ e, C' e → C e) {e : Expr} {n : String}
    (hf : FirstRefP C e n) : FirstRefP C' e n := by
  induction hf with
  | name | inl => constructor
  | seq hpre _ ih => exact .seq (fun p hp hc => hpre p hp (h p hc)) ih
  | alt he _ ih => exact .alt he ih
  | peekFor _ ih | peekNot _ ih | query _ ih | star _ ih | plus _ ih | push _ ih | ipush _ ih =>
    constructor; exact ih

theorem SynConsume.must {G : Grammar} {e : Expr} (h : SynConsume e) : MustConsume G e := by
  induction h with
  | dot | chr | rng => constructor
  | str h => exact .str h
  | seq he _ ih => exact .seq he ih
  | alt _ ih => exact .alt ih
  | plus _ ih | push _ ih | ipush _ ih => constructor; exact ih

/-- `Run G m e res`: `checkRecursion(e)` with the flags of `m` set returns `res.1` and warns `res.2`.
    (In a sequence every element has a run, also those after the first that consumes: `seqRun` does
    not look at them.) -/
inductive Run (G : Grammar) : List String → Expr → Bool × List String → Prop
  | undef {m e n} : IsRef e n → G.find n = none → Run G m e (false, [])
  | cut {m e n r} : IsRef e n → G.find n = some r → n ∈ m → Run G m e (false, [n])
  | enter {m e n r res} : IsRef e n → G.find n = some r → n ∉ m → Run G (n :: m) r.body res → Run G m e res
  | alt {m es} (g : Expr → Bool × List String) : (∀ e, e ∈ es → Run G m e (g e)) → Run G m (.alt es) (altRun g es)
  | seq {m es} (g : Expr → Bool × List String) : (∀ e, e ∈ es → Run G m e (g e)) → Run G m (.seq es) (seqRun g es)
  | wrap {m t o i res} : Wraps t o i → Run G m i res → Run G m o (t && res.1, res.2)
  | leaf {m b e} : Leaf b e → Run G m e (b, [])

theorem checkRec_run (G : Grammar) : ∀ (f : Nat) (m : List String) (e : Expr),
    need G m e ≤ f → Run G m e (checkRec G f m e) := by
  intro f
  induction f with
  | zero => intro m e hf; exact absurd hf need_zero
  | succ f ih =>
    intro m e hf
    have href : ∀ n, IsRef e n → Run G m e (match G.find n with
        | none => (false, [])
        | some r => if m.contains n then (false, [n]) else checkRec G f (n :: m) r.body) := by
      intro n he
      cases hfind : G.find n with
      | none => exact .undef he hfind
      | some r =>
        by_cases hm : n ∈ m
        · simpa [hm] using Run.cut he hfind hm
        · simpa [hm] using Run.enter he hfind hm (ih _ _ (need_ref hfind hm hf))
    have hlist : ∀ es, depthL es < e.depth → ∀ c, c ∈ es → Run G m c (checkRec G f m c) :=
      fun es hes c hc => ih m c (need_child (Nat.lt_of_le_of_lt (depthL_mem hc) hes) hf)
    have hwrap : ∀ {t i}, Wraps t e i → Run G m e (t && (checkRec G f m i).1, (checkRec G f m i).2) :=
      fun hw => .wrap hw (ih m _ (need_child (by rw [hw.depth]; omega) hf))
    cases e with
    | name n | inl n b => exact href n (by constructor)
    | alt es => exact .alt _ (hlist es (by simp [Expr.depth]))
    | seq es => exact .seq _ (hlist es (by simp [Expr.depth]))
    | peekFor e | peekNot e | query e | star e | plus e | push e r | ipush e r =>
      exact hwrap (by constructor)
    | chr | str | dot | rng | ualt | pred | stmt | act | nil => exact .leaf (by constructor)

/-- How a warned rule `x` is reached from `e`: the induction invariant of `Run.first` and
    `Run.weak`. -/
def Reach (F : Expr → String → Prop) (R : String → String → Prop) (e : Expr) (x : String) : Prop :=
  ∃ a, F e a ∧ Star R a x

theorem Reach.map {F : Expr → String → Prop} {R : String → String → Prop} {e e' : Expr} {x : String}
    (h : ∀ a, F e a → F e' a) : Reach F R e x → Reach F R e' x
  | ⟨a, h1, h2⟩ => ⟨a, h a h1, h2⟩

/-- Entering rule `n` (first step `n → a`, then on to `x`): if the warned `x` is the new mark `n`
    itself, it lies on a cycle. -/
theorem mark_or_cycle_enter {α : Type} {R : α → α → Prop} {n a x : α} {m : List α} (hstep : R n a) (hs : Star R a x) :
    x ∈ n :: m ∨ Plus R x x → x ∈ m ∨ Plus R x x
  | .inl (.head _) => .inr (Plus.iff_step_star.mpr ⟨a, hstep, hs⟩)
  | .inl (.tail _ h) => .inl h
  | .inr h => .inr h

theorem firstRef_seq_inv {C : Expr → Prop} {es : List Expr} {n : String} (h : FirstRefP C (.seq es) n) :
    ∃ pre e post, es = pre ++ e :: post ∧ (∀ p, p ∈ pre → ¬ C p) ∧ FirstRefP C e n := by
  generalize hE : Expr.seq es = x at h
  cases h <;> cases hE
  exact ⟨_, _, _, rfl, by assumption, by assumption⟩

section RunFacts
variable {G : Grammar} {m : List String} {e : Expr} {res : Bool × List String}

theorem Run.consumes (h : Run G m e res) : res.1 = true → MustConsume G e := by
  induction h with
  | undef | cut => exact fun h => by cases h
  | enter he hfind _ _ ih => exact fun hb => he.mustConsume.mpr ⟨_, hfind, ih hb⟩
  | alt g _ ih => exact fun hb => .alt fun e he => ih e he ((altRun_true g).mp hb e he)
  | seq g _ ih => exact fun hb => let ⟨e, he, h'⟩ := (seqRun_true g).mp hb; .seq he (ih e he h')
  | wrap hw _ ih =>
    exact fun hb => let ⟨h1, h2⟩ := Bool.and_eq_true_iff.mp hb; hw.mustConsume.mpr ⟨h1, ih h2⟩
  | leaf hl => exact hl.mustConsume.mpr

/-- The converse of `Run.consumes`, for a run that cuts no cycle only: a cut answers `false` for a rule
    that may well consume.  This is why `Run.first` speaks of the FIRST warning: up to it nothing
    has been cut, so the answers are exact. -/
theorem Run.exact (h : Run G m e res) : res.2 = [] → MustConsume G e → res.1 = true := by
  induction h with
  | undef he hfind =>
    exact fun _ hmc => let ⟨_, hr, _⟩ := he.mustConsume.mp hmc; by simp [hfind] at hr
  | cut => exact fun h => by cases h
  | enter he hfind _ _ ih =>
    intro hw hmc
    obtain ⟨_, hr, hb⟩ := he.mustConsume.mp hmc
    cases hfind.symm.trans hr
    exact ih hw hb
  | alt g _ ih =>
    intro hw hmc
    cases hmc with
    | alt hall =>
      refine (altRun_true g).mpr fun e he => ih e he (List.eq_nil_of_subset_nil fun x hx => ?_) (hall e he)
      exact hw ▸ (altRun_mem g).mpr ⟨e, he, hx⟩
  | @seq _ es g _ ih =>
    intro hw hmc
    cases hmc with
    | seq he hmce =>
      cases hres : (seqRun g es).1 with
      | true => rfl
      | false =>
        -- nothing consumed, so `e` has run, without a warning: it consumes after all
        obtain ⟨hfalse, hsub⟩ := seqRun_false g hres he
        simpa [hfalse] using ih _ he (List.eq_nil_of_subset_nil fun x hx => hw ▸ hsub x hx) hmce
  | wrap hw _ ih =>
    exact fun hnil hmc => let ⟨ht, hi⟩ := hw.mustConsume.mp hmc; by simp [ht, ih hnil hi]
  | leaf hl => exact fun _ => hl.mustConsume.mp

/-- Soundness of the FIRST warning of a run (`recWarningsOf_first`): it names a mark or a
    left-recursive rule. -/
theorem Run.first {x : String} (h : Run G m e res) :
    res.2.head? = some x → Reach (FirstRef G) (LStep G) e x ∧ (x ∈ m ∨ LeftRec G x) := by
  induction h with
  | undef | leaf => exact fun h => by cases h
  | cut he _ hm =>
    intro hx
    cases hx
    exact ⟨⟨_, he.firstRef.mpr rfl, .refl _⟩, .inl hm⟩
  | enter he hfind _ _ ih =>
    intro hx
    obtain ⟨⟨a, ha, hs⟩, hor⟩ := ih hx
    have hstep : LStep G _ a := ⟨_, hfind, ha⟩
    exact ⟨⟨_, he.firstRef.mpr rfl, .step hstep hs⟩, mark_or_cycle_enter hstep hs hor⟩
  | alt g _ ih =>
    intro hx
    obtain ⟨e, he, h'⟩ := altRun_head g hx
    exact (ih e he h').imp_left (.map fun a ha => .alt he ha)
  | seq g hruns ih =>
    intro hx
    obtain ⟨pre, e, post, rfl, hpre, h'⟩ := seqRun_head g hx
    refine (ih e (by simp) h').imp_left (.map fun a ha => .seq (fun p hp hmc => ?_) ha)
    -- why the FIRST warning: the elements before it have run without one, so `Run.exact` applies
    simpa [(hpre p hp).1] using (hruns p (by simp [hp])).exact (hpre p hp).2 hmc
  | wrap hw _ ih => exact fun hx => (ih hx).imp_left (.map fun a => hw.firstRef.mpr)

/-- What `Run.weak` has in place of `Run.exact`; it holds whatever the run warned. -/
theorem Run.syn (h : Run G m e res) : SynConsume e → res.1 = true := by
  induction h with
  | undef he | cut he | enter he => exact fun hs => absurd hs he.synConsume
  | alt g _ ih =>
    intro hs
    cases hs with
    | alt hall => exact (altRun_true g).mpr fun e he => ih e he (hall e he)
  | seq g _ ih =>
    intro hs
    cases hs with
    | seq he hs' => exact (seqRun_true g).mpr ⟨_, he, ih _ he hs'⟩
  | wrap hw _ ih => exact fun hs => let ⟨ht, hi⟩ := hw.synConsume.mp hs; by simp [ht, ih hi]
  | leaf hl => exact hl.synConsume.mp

/-- Soundness of EVERY warning, against the coarser `LeftRecW` (`recWarnings_weak`).  The twin of
    `Run.first`: `x ∈` for `head? = some x`, `altRun_mem`/`seqRun_mem` for `altRun_head`/`seqRun_head`,
    `Run.syn` for `Run.exact`; the cases `cut`, `enter`, `alt`, `wrap` are the same. -/
theorem Run.weak {x : String} (h : Run G m e res) :
    x ∈ res.2 → Reach FirstRefW (LStepW G) e x ∧ (x ∈ m ∨ LeftRecW G x) := by
  induction h with
  | undef | leaf => exact fun h => by cases h
  | cut he _ hm =>
    intro hx
    cases List.mem_singleton.mp hx
    exact ⟨⟨_, he.firstRef.mpr rfl, .refl _⟩, .inl hm⟩
  | enter he hfind _ _ ih =>
    intro hx
    obtain ⟨⟨a, ha, hs⟩, hor⟩ := ih hx
    have hstep : LStepW G _ a := ⟨_, hfind, ha⟩
    exact ⟨⟨_, he.firstRef.mpr rfl, .step hstep hs⟩, mark_or_cycle_enter hstep hs hor⟩
  | alt g _ ih =>
    intro hx
    obtain ⟨e, he, h'⟩ := (altRun_mem g).mp hx
    exact (ih e he h').imp_left (.map fun a ha => .alt he ha)
  | seq g hruns ih =>
    intro hx
    obtain ⟨pre, e, post, rfl, hpre, h'⟩ := (seqRun_mem g).mp hx
    refine (ih e (by simp) h').imp_left (.map fun a ha => .seq (fun p hp hsc => ?_) ha)
    simpa [hpre p hp] using (hruns p (by simp [hp])).syn hsc
  | wrap hw _ ih => exact fun hx => (ih hx).imp_left (.map fun a => hw.firstRef.mpr)

/-- The reference `a` was visited under the marks `m`, and what it warned is in `ws`: if `a` is a mark
    it is warned itself (where `Run.complete` ends its chain), otherwise its body was run under the new
    mark and those warnings are included (where `Run.complete` follows the chain). -/
def Vis (G : Grammar) (m : List String) (a : String) (ra : Rule) (ws : List String) : Prop :=
  (a ∈ m → a ∈ ws) ∧ (a ∉ m → ∃ res', Run G (a :: m) ra.body res' ∧ ∀ x, x ∈ res'.2 → x ∈ ws)

theorem Vis.mono {a : String} {ra : Rule} {ws ws' : List String}
    (h : ∀ x, x ∈ ws → x ∈ ws') : Vis G m a ra ws → Vis G m a ra ws'
  | ⟨h1, h2⟩ => ⟨fun hm => h _ (h1 hm), fun hm =>
      let ⟨r', hr', hx⟩ := h2 hm; ⟨r', hr', fun x hx' => h _ (hx x hx')⟩⟩

/-- For `Run.complete`: a run visits every first reference of its expression. -/
theorem Run.visit {a : String} {ra : Rule} (h : Run G m e res) (hfind : G.find a = some ra) :
    FirstRef G e a → Vis G m a ra res.2 := by
  induction h with
  | undef he hnone => exact fun hfr => by simp [he.firstRef.mp hfr, hnone] at hfind
  | cut he _ hm =>
    intro hfr
    cases he.firstRef.mp hfr
    exact ⟨fun _ => by simp, fun h => absurd hm h⟩
  | enter he hr hm hrun _ =>
    intro hfr
    cases he.firstRef.mp hfr
    cases hr.symm.trans hfind
    exact ⟨fun h => absurd h hm, fun _ => ⟨_, hrun, fun _ hx => hx⟩⟩
  | alt g _ ih =>
    intro hfr
    cases hfr with
    | alt he hfr' => exact (ih _ he hfr').mono fun x hx => (altRun_mem g).mpr ⟨_, he, hx⟩
  | seq g hruns ih =>
    intro hfr
    obtain ⟨pre, e', post, rfl, hpre, hfr'⟩ := firstRef_seq_inv hfr
    refine (ih e' (by simp) hfr').mono fun x hx => (seqRun_mem g).mpr ⟨pre, e', post, rfl, fun p hp => ?_, hx⟩
    exact Bool.eq_false_iff.mpr fun hc => hpre p hp ((hruns p (by simp [hp])).consumes hc)
  | wrap hw _ ih => exact fun hfr => ih (hw.firstRef.mp hfr)
  | leaf hl => exact fun hfr => absurd hfr hl.firstRef

/-- Some marked rule on a first-position chain from `e` into the marks is warned.  The bound `k ≤ n`
    on what is left of the chain is what the induction restarts on. -/
theorem Run.complete : ∀ (n : Nat) {m : List String} {e : Expr} {res : Bool × List String} {a t : String},
    (∀ x, x ∈ m → Defd G x) → Run G m e res → FirstRef G e a →
    StepsN (LStep G) n a t → t ∈ m →
    ∃ x, x ∈ m ∧ x ∈ res.2 ∧ ∃ k, k ≤ n ∧ StepsN (LStep G) k x t := by
  intro n
  induction n using Nat.strongRecOn with
  | _ n ih =>
    intro m e res a t hdef hrun hfr hsteps ht
    by_cases ham : a ∈ m
    · obtain ⟨ra, hfind⟩ := hdef a ham
      exact ⟨a, ham, (hrun.visit hfind hfr).1 ham, n, Nat.le_refl _, hsteps⟩
    · cases hsteps with
      | zero => exact absurd ht ham
      | @succ n' _ b _ hstep hrest =>
        obtain ⟨ra, hfind, hfrb⟩ := hstep
        obtain ⟨res', hrun', hsub⟩ := (hrun.visit hfind hfr).2 ham
        have hdef' : ∀ x, x ∈ a :: m → Defd G x
          | _, .head _ => ⟨ra, hfind⟩
          | x, .tail _ hx => hdef x hx
        obtain ⟨x, hxm, hxw, k, hk, hks⟩ :=
          ih n' (Nat.lt_succ_self _) hdef' hrun' hfrb hrest (List.mem_cons_of_mem _ ht)
        cases hxm with
        | head =>
          -- the chain came back to `a`: restart from `a` with the shorter rest of the chain
          obtain ⟨x', hx'm, hx'w, k', hk', hk's⟩ := ih k (by omega) hdef hrun hfr hks ht
          exact ⟨x', hx'm, hx'w, k', by omega, hk's⟩
        | tail _ hxm => exact ⟨x, hxm, hsub x hxw, k, by omega, hks⟩

end RunFacts

theorem recWarningsOf_run {G : Grammar} {r : Rule} (hr : r ∈ G.rules) :
    ∃ b, Run G [r.name] r.body (b, recWarningsOf G r) :=
  ⟨_, checkRec_run G _ _ _ (need_top hr)⟩

/-- The run `Compile` starts at `r`, seen as that of a reference to `r` with no flag set. -/
theorem recWarningsOf_ref {G : Grammar} (hu : G.Uniq) {r : Rule} (hr : r ∈ G.rules) :
    ∃ b, Run G [] (.name r.name) (b, recWarningsOf G r) :=
  let ⟨b, hrun⟩ := recWarningsOf_run hr
  ⟨b, .enter (.name _) (Grammar.find_of_nodup hu hr) List.not_mem_nil hrun⟩

theorem recWarnings_complete {G : Grammar} {n : String} (h : LeftRec G n) : n ∈ recWarnings G := by
  obtain ⟨b, ⟨r, hfind, hfr⟩, hstar⟩ := Plus.iff_step_star.mp (h : Plus (LStep G) n n)
  obtain ⟨hr, rfl⟩ := Grammar.find_spec hfind
  obtain ⟨k, hk⟩ := hstar.toStepsN
  obtain ⟨_, hrun⟩ := recWarningsOf_run hr
  -- the run started at `r` itself warns `r`: its only mark is `r.name`
  obtain ⟨x, hxm, hxw, _⟩ := hrun.complete k (by simpa [Defd] using ⟨r, hfind⟩) hfr hk (by simp)
  cases List.mem_singleton.mp hxm
  exact List.mem_flatMap.mpr ⟨r, hr, hxw⟩

theorem recWarningsOf_first {G : Grammar} (hu : G.Uniq) {r : Rule} (hr : r ∈ G.rules) {x : String}
    (h : (recWarningsOf G r).head? = some x) : LeftRec G x :=
  let ⟨_, hrun⟩ := recWarningsOf_ref hu hr
  (hrun.first h).2.resolve_left List.not_mem_nil

theorem recWarnings_weak {G : Grammar} (hu : G.Uniq) {x : String} (h : x ∈ recWarnings G) : LeftRecW G x :=
  let ⟨_, hr, hx⟩ := List.mem_flatMap.mp h
  let ⟨_, hrun⟩ := recWarningsOf_ref hu hr
  (hrun.weak hx).2.resolve_left List.not_mem_nil

theorem recWarnings_eq_nil_iff {G : Grammar} (hu : G.Uniq) : recWarnings G = [] ↔ ∀ n, ¬ LeftRec G n := by
  constructor
  · intro h n hn
    simpa [h] using recWarnings_complete hn
  · intro h
    rw [recWarnings, List.flatMap_eq_nil_iff]
    intro r hr
    -- the first warning of a run would be a left-recursive rule
    cases hro : recWarningsOf G r with
    | nil => rfl
    | cons z zs => exact absurd (recWarningsOf_first hu hr (by simp [hro])) (h z)

/-! ### B. `countRec`

  `countRules` only looks at the references below a node, in order (`refsE`), so `Marks` runs over a
  list of references.  `CGood` is what a run guarantees. -/

theorem mem_refsL {e : Expr} {n : String} : ∀ {es : List Expr}, e ∈ es → n ∈ refsE e → n ∈ refsL es
  | [], he, _ => by cases he
  | a :: as, he, h => by
    simp only [refsL, List.mem_append]
    cases he with
    | head => exact Or.inl h
    | tail _ h' => exact Or.inr (mem_refsL h' h)

mutual
  theorem refs_mentions : ∀ (e : Expr) (n : String), n ∈ refsE e → Mentions e n
    | .name a, n, h => by cases List.mem_singleton.mp h; exact .name _
    | .inl a b, n, h => by cases List.mem_singleton.mp h; exact .inl _ _
    | .seq es, n, h => let ⟨_, he, hm⟩ := refsL_mentions es n h; .seq he hm
    | .alt es, n, h => let ⟨_, he, hm⟩ := refsL_mentions es n h; .alt he hm
    | .ualt ks es, n, h => let ⟨_, he, hm⟩ := refsL_mentions es n h; .ualt he hm
    | .peekFor e, n, h => .peekFor (refs_mentions e n h)
    | .peekNot e, n, h => .peekNot (refs_mentions e n h)
    | .query e, n, h => .query (refs_mentions e n h)
    | .star e, n, h => .star (refs_mentions e n h)
    | .plus e, n, h => .plus (refs_mentions e n h)
    | .push e r, n, h => .push (refs_mentions e n h)
    | .ipush e r, n, h => .ipush (refs_mentions e n h)
    | .dot, n, h | .chr _, n, h | .rng _ _, n, h | .str _, n, h | .pred _, n, h | .stmt _, n, h
    | .act _, n, h | .nil, n, h => nomatch h
  theorem refsL_mentions : ∀ (es : List Expr) (n : String), n ∈ refsL es → ∃ e, e ∈ es ∧ Mentions e n
    | [], _, h => nomatch h
    | e :: es, n, h =>
      match List.mem_append.mp h with
      | .inl h => ⟨e, List.mem_cons_self, refs_mentions e n h⟩
      | .inr h => let ⟨e', he', hm⟩ := refsL_mentions es n h; ⟨e', List.mem_cons_of_mem _ he', hm⟩
end

theorem mentions_iff_refs (e : Expr) (n : String) : Mentions e n ↔ n ∈ refsE e := by
  refine ⟨fun h => ?_, refs_mentions e n⟩
  induction h with
  | name n => simp [refsE]
  | inl n b => simp [refsE]
  | seq he _ ih | alt he _ ih | ualt he _ ih => exact mem_refsL he ih
  | peekFor _ ih | peekNot _ ih | query _ ih | star _ ih | plus _ ih | push _ ih | ipush _ ih => exact ih

/-- `Marks G ns rs out`: `countRules`, asked to visit the references `ns` in order with the flags of
    `rs` set, ends with the flags `out`. -/
inductive Marks (G : Grammar) : List String → List String → List String → Prop
  | nil {rs} : Marks G [] rs rs
  | append {as bs rs mid out} : Marks G as rs mid → Marks G bs mid out → Marks G (as ++ bs) rs out
  | undef {n rs} : G.find n = none → Marks G [n] rs rs
  | seen {n rs} : n ∈ rs → Marks G [n] rs rs
  | enter {n r rs out} : G.find n = some r → n ∉ rs → Marks G (refsE r.body) (n :: rs) out → Marks G [n] rs out

/-- Post-condition of a `countRules` call on something that mentions `refs`, from marks `rs` to
    marks `out`.  `closed` speaks of the newly marked rules only: one marked before was not entered by
    this call, so nothing is known of what its body mentions.  `sound` gives `reached_iff` from left to
    right, `direct` and `closed` from right to left; `mono` is for composing calls (`CGood.append`). -/
structure CGood (G : Grammar) (refs rs out : List String) : Prop where
  mono : ∀ x, x ∈ rs → x ∈ out
  direct : ∀ a, a ∈ refs → Defd G a → a ∈ out
  closed : ∀ n, n ∈ out → n ∉ rs → ∀ r b, G.find n = some r → b ∈ refsE r.body → Defd G b → b ∈ out
  sound : ∀ n, n ∈ out → n ∈ rs ∨ (Defd G n ∧ ∃ a, a ∈ refs ∧ Star (Refers G) a n)

theorem CGood.same {G : Grammar} {refs rs : List String} (h : ∀ a, a ∈ refs → Defd G a → a ∈ rs) :
    CGood G refs rs rs :=
  ⟨fun _ h => h, h, fun _ h h' => absurd h h', fun _ h => Or.inl h⟩

theorem CGood.congr {G : Grammar} {refs refs' rs out : List String} (h : ∀ a, a ∈ refs ↔ a ∈ refs')
    (g : CGood G refs rs out) : CGood G refs' rs out :=
  ⟨g.mono, fun a ha => g.direct a ((h a).mpr ha), g.closed, fun n hn =>
    (g.sound n hn).imp (fun h0 => h0) (fun ⟨hd, a, ha, hs⟩ => ⟨hd, a, (h a).mp ha, hs⟩)⟩

theorem CGood.append {G : Grammar} {as bs rs mid out : List String} (g1 : CGood G as rs mid)
    (g2 : CGood G bs mid out) : CGood G (as ++ bs) rs out := by
  refine ⟨fun x hx => g2.mono x (g1.mono x hx), ?_, ?_, ?_⟩
  · intro b hb hd
    rcases List.mem_append.mp hb with hb | hb
    · exact g2.mono b (g1.direct b hb hd)
    · exact g2.direct b hb hd
  · intro n hn hnrs r b hfind hb hd
    by_cases hn1 : n ∈ mid
    · exact g2.mono b (g1.closed n hn1 hnrs r b hfind hb hd)
    · exact g2.closed n hn hn1 r b hfind hb hd
  · intro n hn
    rcases g2.sound n hn with h1 | ⟨hd, a', ha', hs⟩
    · rcases g1.sound n h1 with h0 | ⟨hd, a', ha', hs⟩
      · exact Or.inl h0
      · exact Or.inr ⟨hd, a', List.mem_append.mpr (Or.inl ha'), hs⟩
    · exact Or.inr ⟨hd, a', List.mem_append.mpr (Or.inr ha'), hs⟩

theorem Marks.good {G : Grammar} {ns rs out : List String} (h : Marks G ns rs out) : CGood G ns rs out := by
  induction h with
  | nil => exact .same nofun
  | append _ _ g1 g2 => exact g1.append g2
  | undef hfind =>
    refine .same ?_
    rintro a ha ⟨r, hr⟩
    cases List.mem_singleton.mp ha
    simp [hfind] at hr
  | seen hm => exact .same fun a ha _ => List.mem_singleton.mp ha ▸ hm
  | @enter n r rs out hfind hm _ g =>
    refine ⟨fun x hx => g.mono x (List.mem_cons_of_mem _ hx), ?_, ?_, ?_⟩
    · intro a ha _
      exact List.mem_singleton.mp ha ▸ g.mono _ List.mem_cons_self
    · intro x hx hxrs r' b hfind' hb hd
      by_cases hxn : x = n
      · subst hxn
        cases hfind.symm.trans hfind'
        exact g.direct b hb hd
      · exact g.closed x hx (by simp [hxn, hxrs]) r' b hfind' hb hd
    · intro x hx
      rcases g.sound x hx with h1 | ⟨hd, a, ha, hs⟩
      · cases h1 with
        | head => exact Or.inr ⟨⟨r, hfind⟩, n, by simp, .refl _⟩
        | tail _ h1 => exact Or.inl h1
      · exact Or.inr ⟨hd, n, by simp, .step ⟨r, hfind, (mentions_iff_refs _ _).mpr ha⟩ hs⟩

theorem countRec_marks (G : Grammar) : ∀ (f : Nat) (e : Expr) (rs : List String),
    need G rs e ≤ f → Marks G (refsE e) rs (countRec G f e rs) := by
  intro f
  induction f with
  | zero => intro e rs hf; exact absurd hf need_zero
  | succ f ih =>
    intro e rs hf
    have href : ∀ n, Marks G [n] rs (match G.find n with
        | none => rs
        | some r => if rs.contains n then rs else countRec G f r.body (n :: rs)) := by
      intro n
      cases hfind : G.find n with
      | none => exact .undef hfind
      | some r =>
        by_cases hm : n ∈ rs
        · simpa [hm] using Marks.seen hm
        · simpa [hm] using Marks.enter hfind hm (ih _ _ (need_ref hfind hm hf))
    have hlist : ∀ es : List Expr, depthL es < e.depth → ∀ acc, (∀ x, x ∈ rs → x ∈ acc) →
        Marks G (refsL es) acc (es.foldl (fun acc x => countRec G f x acc) acc) := by
      intro es
      induction es with
      | nil => exact fun _ _ _ => .nil
      | cons a as ihl =>
        intro hd acc hacc
        have ha : a.depth < e.depth := Nat.lt_of_le_of_lt (depthL_mem List.mem_cons_self) hd
        have h1 := ih a acc (Nat.le_trans (need_mono a hacc) (need_child ha hf))
        exact .append h1 (ihl (Nat.lt_of_le_of_lt (by simp [depthL]; omega) hd) _
          fun x hx => h1.good.mono x (hacc x hx))
    cases e with
    | name n | inl n b => exact href n
    | seq es => exact hlist es (by simp [Expr.depth]) rs fun _ h => h
    | alt es => exact hlist es (by simp [Expr.depth]) rs fun _ h => h
    | ualt ks es => exact hlist es (by simp [Expr.depth]) rs fun _ h => h
    | peekFor e | peekNot e | query e | star e | plus e => exact ih e rs (need_child (by simp [Expr.depth]) hf)
    | push e r | ipush e r => exact ih e rs (need_child (by simp [Expr.depth]) hf)
    | dot | chr c | rng lo hi | str s | pred c | stmt c | act c | nil => exact .nil

theorem reachedNames_good {G : Grammar} {first : Rule} {rest : List Rule} (hG : G.rules = first :: rest) :
    CGood G [first.name] [] (reachedNames G) := by
  have hm := countRec_marks G G.diagFuel first.body [first.name] (need_top (by simp [hG]))
  have hout : reachedNames G = countRec G G.diagFuel first.body [first.name] := by
    simp [reachedNames, hG]
  exact (Marks.enter (Grammar.find_head hG) List.not_mem_nil (hout ▸ hm)).good

theorem reached_iff {G : Grammar} {first : Rule} {rest : List Rule} (hG : G.rules = first :: rest)
    (n : String) : n ∈ reachedNames G ↔ Reachable G first.name n ∧ Defd G n := by
  have g := reachedNames_good hG
  constructor
  · intro hn
    rcases g.sound n hn with h | ⟨hd, a, ha, hs⟩
    · cases h
    · cases List.mem_singleton.mp ha
      exact ⟨hs, hd⟩
  · rintro ⟨hreach, hd⟩
    -- the marked set contains the first rule and is closed under "body mentions"
    suffices ∀ a, Star (Refers G) a n → a ∈ reachedNames G → n ∈ reachedNames G from
      this _ hreach (g.direct _ List.mem_cons_self ⟨first, Grammar.find_head hG⟩)
    intro a hs
    induction hs with
    | refl => exact id
    | step hab hbc ih =>
      intro ha
      obtain ⟨r, hfind, hb⟩ := hab
      exact ih hreach hd
        (g.closed _ ha List.not_mem_nil r _ hfind ((mentions_iff_refs _ _).mp hb) (Defd.of_star hbc hd))

theorem reached_iff_of_mem {G : Grammar} {first : Rule} {rest : List Rule} (hG : G.rules = first :: rest)
    {r : Rule} (hr : r ∈ G.rules) : r.name ∈ reachedNames G ↔ Reachable G first.name r.name :=
  (reached_iff hG _).trans (and_iff_left (Defd.of_mem hr))

end PegVerif
