import PegVerif.Model.AstSpec
import PegVerif.Proofs.SyntaxLemmas
/-
  The token consumers of Model/Ast.lean against the forest specifications of Model/AstSpec.lean.
  The `AST()` stack loop is followed on the post-order of a well-nested forest under the invariant
  `StackBelow` (`astStackFrom_tree` / `_forest`); `Execute` is a fold of `closeTok` (`runToks`), read
  on forests (`actionTrace`) and on lists (`traceAfter`).
-/
namespace PegVerif

/-! ### Unfolding the mutual definitions -/

@[simp] theorem WellNested_node (t : Token) (kids : List TokTree) :
    WellNested (.node t kids) ↔ t.b ≤ t.e ∧ WellNestedL t.b t.e kids := by simp [WellNested]
@[simp] theorem WellNestedL_nil (lo hi : Nat) : WellNestedL lo hi [] ↔ lo ≤ hi := by
  simp [WellNestedL]
@[simp] theorem WellNestedL_cons (lo hi : Nat) (k : TokTree) (ks : List TokTree) :
    WellNestedL lo hi (k :: ks) ↔ lo ≤ k.tok.b ∧ WellNested k ∧ WellNestedL k.tok.e hi ks := by
  simp [WellNestedL]

@[simp] theorem tok_node (t : Token) (kids : List TokTree) : (TokTree.node t kids).tok = t := rfl
@[simp] theorem kids_node (t : Token) (kids : List TokTree) : (TokTree.node t kids).kids = kids := rfl

@[simp] theorem pruneT_node (t : Token) (kids : List TokTree) :
    pruneT (.node t kids) = if t.b = t.e then [] else [.node t (prune kids)] := by simp [pruneT]
@[simp] theorem prune_nil : prune [] = [] := by simp [prune]
@[simp] theorem prune_cons (k : TokTree) (ks : List TokTree) :
    prune (k :: ks) = pruneT k ++ prune ks := by simp [prune]

@[simp] theorem preorderT_node (d : Nat) (t : Token) (kids : List TokTree) :
    preorderT d (.node t kids) = (d, t) :: preorder (d + 1) kids := by simp [preorderT]
@[simp] theorem preorder_nil (d : Nat) : preorder d [] = [] := by simp [preorder]
@[simp] theorem preorder_cons (d : Nat) (k : TokTree) (ks : List TokTree) :
    preorder d (k :: ks) = preorderT d k ++ preorder d ks := by simp [preorder]

theorem prune_append (a b : List TokTree) : prune (a ++ b) = prune a ++ prune b := by
  induction a with
  | nil => simp
  | cons k ks ih => simp [ih]

/-! ### `WellNested` -/

mutual
  theorem wellNestedB_iff : ∀ k : TokTree, wellNestedB k = true ↔ WellNested k
    | .node t kids => by
      simp [wellNestedB, wellNestedLB_iff kids t.b t.e]
  theorem wellNestedLB_iff : ∀ (f : List TokTree) (lo hi : Nat),
      wellNestedLB lo hi f = true ↔ WellNestedL lo hi f
    | [], lo, hi => by simp [wellNestedLB]
    | k :: ks, lo, hi => by
      simp [wellNestedLB, wellNestedB_iff k, wellNestedLB_iff ks k.tok.e hi, and_assoc]
end

instance (k : TokTree) : Decidable (WellNested k) :=
  decidable_of_iff _ (wellNestedB_iff k)
instance (lo hi : Nat) (f : List TokTree) : Decidable (WellNestedL lo hi f) :=
  decidable_of_iff _ (wellNestedLB_iff f lo hi)

theorem WellNested.le : ∀ {k : TokTree}, WellNested k → k.tok.b ≤ k.tok.e
  | .node _ _, h => by simp at h; exact h.1

theorem WellNestedL.le : ∀ {f : List TokTree} {lo hi : Nat}, WellNestedL lo hi f → lo ≤ hi
  | [], _, _, h => by simpa using h
  | k :: ks, lo, hi, h => by
    obtain ⟨hlo, hk, hks⟩ := (WellNestedL_cons ..).1 h
    have h1 := hk.le
    have h2 := hks.le
    omega

theorem WellNestedL.mono : ∀ {f : List TokTree} {lo hi lo' hi' : Nat},
    WellNestedL lo hi f → lo' ≤ lo → hi ≤ hi' → WellNestedL lo' hi' f
  | [], _, _, _, _, h, h1, h2 => by simp at h ⊢; omega
  | k :: ks, _, _, _, _, h, h1, h2 => by
    obtain ⟨hlo, hk, hks⟩ := (WellNestedL_cons ..).1 h
    exact (WellNestedL_cons ..).2 ⟨by omega, hk, hks.mono (Nat.le_refl _) h2⟩

theorem WellNestedL_append {a b : List TokTree} {lo mid hi : Nat}
    (ha : WellNestedL lo mid a) (hb : WellNestedL mid hi b) : WellNestedL lo hi (a ++ b) := by
  induction a generalizing lo with
  | nil => simp at ha; exact hb.mono ha (Nat.le_refl _)
  | cons k ks ih =>
    obtain ⟨hlo, hk, hks⟩ := (WellNestedL_cons ..).1 ha
    exact (WellNestedL_cons ..).2 ⟨hlo, hk, ih hks⟩

theorem WellNestedL_single {t : Token} {kids : List TokTree} (h : WellNestedL t.b t.e kids) :
    WellNestedL t.b t.e [.node t kids] := by
  simp [h, h.le]

mutual
  theorem WellNested.within : ∀ (k : TokTree), WellNested k →
      SpansIn k.tok.b k.tok.e k.postorder
    | .node t kids, h => fun x hx => by
      obtain ⟨hle, hkids⟩ := (WellNested_node ..).1 h
      simp at hx
      rcases hx with hx | hx
      · exact WellNestedL.within kids t.b t.e hkids x hx
      · subst hx; simp; exact hle
  theorem WellNestedL.within : ∀ (f : List TokTree) (lo hi : Nat), WellNestedL lo hi f →
      SpansIn lo hi (postorderL f)
    | [], _, _, _ => by simpa using SpansIn.nil
    | k :: ks, lo, hi, h => fun x hx => by
      obtain ⟨hlo, hk, hks⟩ := (WellNestedL_cons ..).1 h
      simp only [postorderL_cons, List.mem_append] at hx
      have hkle := hk.le
      have hr := hks.le
      rcases hx with hx | hx
      · have := WellNested.within k hk x hx; omega
      · have := WellNestedL.within ks k.tok.e hi hks x hx; omega
end

theorem below_empty_all_empty {t : Token} {kids : List TokTree}
    (h : WellNested (.node t kids)) (he : t.b = t.e) :
    ∀ x ∈ postorderL kids, x.b = t.b ∧ x.e = t.b := by
  intro x hx
  obtain ⟨_, hkids⟩ := (WellNested_node ..).1 h
  have := WellNestedL.within kids t.b t.e hkids x hx
  omega

/-- From the proof-side spelling to the model's: spans inside the input can be sliced. -/
theorem SpansIn.inRange {lo hi : Nat} {ts : List Token} {inp : List Sym} (h : SpansIn lo hi ts)
    (hlen : hi ≤ inp.length) : ∀ t ∈ ts, InRange inp t := fun t ht =>
  ⟨(h t ht).2.1, Nat.le_trans (h t ht).2.2 hlen⟩

theorem WellNested.inRange {k : TokTree} {inp : List Sym} (h : WellNested k)
    (hlen : k.tok.e ≤ inp.length) : ∀ x ∈ k.postorder, InRange inp x :=
  (WellNested.within k h).inRange hlen

/-! ### `prune` -/

theorem pruneT_root {k s : TokTree} (hs : s ∈ pruneT k) :
    s.tok = k.tok ∧ k.tok.b ≠ k.tok.e := by
  cases k with
  | node t kids =>
    simp at hs
    obtain ⟨hne, rfl⟩ := hs
    simp [hne]

theorem prune_roots : ∀ {f : List TokTree} {lo hi : Nat}, WellNestedL lo hi f →
    ∀ s ∈ prune f, lo ≤ s.tok.b ∧ s.tok.b < s.tok.e ∧ s.tok.e ≤ hi
  | [], _, _, _, s, hs => by simp at hs
  | k :: ks, lo, hi, h, s, hs => by
    obtain ⟨hlo, hk, hks⟩ := (WellNestedL_cons ..).1 h
    simp only [prune_cons, List.mem_append] at hs
    have hkle := hk.le
    have hr := hks.le
    rcases hs with hs | hs
    · obtain ⟨e1, e2⟩ := pruneT_root hs
      rw [e1]; omega
    · have := prune_roots hks s hs; omega

theorem prune_eq_nil_of_empty {f : List TokTree} {b : Nat} (h : WellNestedL b b f) :
    prune f = [] := by
  apply List.eq_nil_iff_forall_not_mem.mpr
  intro s hs
  have := prune_roots h s hs
  omega

/-! ### `popInto` / `astStep` -/

/-- What the `AST()` loop needs to know about the stack below a forest that begins at `lo`: its top
    (if any) is a non-empty node ending at or before `lo` — so no token that begins at or after
    `lo` can pop it. -/
def StackBelow (lo : Nat) (st : List TokTree) : Prop :=
  ∀ s ∈ st.head?, s.tok.b < s.tok.e ∧ s.tok.e ≤ lo

theorem StackBelow.nil (lo : Nat) : StackBelow lo [] := by simp [StackBelow]

theorem StackBelow.mono {lo lo' : Nat} {st : List TokTree} (h : StackBelow lo st)
    (hl : lo ≤ lo') : StackBelow lo' st := by
  intro s hs; have := h s hs; omega

theorem StackBelow.push_pruneT {k : TokTree} {st : List TokTree} {lo : Nat}
    (hk : WellNested k) (hlo : lo ≤ k.tok.b) (hst : StackBelow lo st) :
    StackBelow k.tok.e ((pruneT k).reverse ++ st) := by
  cases k with
  | node t kids =>
    have hle := hk.le
    simp only [tok_node] at hlo hle ⊢
    by_cases he : t.b = t.e
    · simpa [he] using hst.mono (by omega)
    · intro s hs
      simp [he] at hs; subst hs
      simp; omega

/-- Popping a block `ys` of stack elements that all lie inside `t`, down to a stack whose top does
    not: the block ends up, REVERSED (i.e. back in input order), in front of the child chain. -/
theorem popInto_block (t : Token) : ∀ (ys acc st : List TokTree),
    (∀ y ∈ ys, t.b ≤ y.tok.b ∧ y.tok.e ≤ t.e) →
    (∀ s ∈ st.head?, ¬ (s.tok.b ≥ t.b ∧ s.tok.e ≤ t.e)) →
    popInto t acc (ys ++ st) = (ys.reverse ++ acc, st)
  | [], acc, st, _, hst => by
    cases st with
    | nil => simp [popInto]
    | cons s down =>
      have := hst s (by simp)
      simp [popInto, this]
  | y :: ys, acc, st, hys, hst => by
    have hy := hys y (by simp)
    have ih := popInto_block t ys (y :: acc) st (fun z hz => hys z (by simp [hz])) hst
    simp [popInto, hy, ih]

theorem astStackFrom_nil (st : List TokTree) : astStackFrom st [] = st := rfl
theorem astStackFrom_cons (st : List TokTree) (t : Token) (ts : List Token) :
    astStackFrom st (t :: ts) = astStackFrom (astStep st t) ts := rfl
theorem astStackFrom_append (st : List TokTree) (a b : List Token) :
    astStackFrom st (a ++ b) = astStackFrom (astStackFrom st a) b := by
  simp [astStackFrom, List.foldl_append]

/-- `if token.begin == token.end { continue }`: empty tokens leave the stack alone. -/
theorem astStackFrom_of_empty {toks : List Token} (h : ∀ t ∈ toks, t.b = t.e) (st : List TokTree) :
    astStackFrom st toks = st := by
  induction toks with
  | nil => rfl
  | cons t ts ih =>
    rw [astStackFrom_cons, astStep, if_pos (h t (by simp)), ih fun x hx => h x (by simp [hx])]

/-- Post-order contents are preserved by the pop loop. -/
theorem popInto_postorder (t : Token) : ∀ (acc st : List TokTree),
    postorderL (popInto t acc st).2.reverse ++ postorderL (popInto t acc st).1
      = postorderL st.reverse ++ postorderL acc
  | acc, [] => by simp [popInto]
  | acc, s :: down => by
    by_cases h : s.tok.b ≥ t.b ∧ s.tok.e ≤ t.e
    · have ih := popInto_postorder t (s :: acc) down
      simp only [popInto, h, and_self, if_true]
      rw [ih]
      simp [postorderL_append]
    · simp [popInto, h]

theorem astStep_postorder (st : List TokTree) (t : Token) :
    postorderL (astStep st t).reverse
      = postorderL st.reverse ++ (if t.b = t.e then [] else [t]) := by
  by_cases h : t.b = t.e
  · simp [astStep, h]
  · have := popInto_postorder t [] st
    simp only [astStep, h, if_false, List.reverse_cons, postorderL_append]
    simp only [postorderL_cons, TokTree.postorder_node, postorderL_nil, List.append_nil] at this ⊢
    rw [← List.append_assoc, this]

/-- For ANY token list (no nesting assumed), the post-order
    flattening of the final stack (bottom to top) is the list of non-empty tokens. -/
theorem astStackFrom_postorder : ∀ (toks : List Token) (st : List TokTree),
    postorderL (astStackFrom st toks).reverse
      = postorderL st.reverse ++ toks.filter (fun t => t.b != t.e)
  | [], st => by simp [astStackFrom_nil]
  | t :: ts, st => by
    rw [astStackFrom_cons, astStackFrom_postorder ts, astStep_postorder]
    by_cases h : t.b = t.e <;> simp [h]

mutual
  /-- On the post-order of a well-nested tree the `AST()` loop pushes the tree's pruned version and
      changes nothing below it (`_forest`: the pruned forest, last tree on top). -/
  theorem astStackFrom_tree : ∀ (k : TokTree) (st : List TokTree) (lo : Nat),
      WellNested k → lo ≤ k.tok.b → StackBelow lo st →
      astStackFrom st k.postorder = (pruneT k).reverse ++ st
    | .node t kids, st, lo, h, hlo, hst => by
      obtain ⟨_, hwn⟩ := (WellNested_node ..).1 h
      simp only [tok_node] at hlo
      have hkids := astStackFrom_forest kids st t.b t.e hwn (hst.mono hlo)
      rw [TokTree.postorder_node, astStackFrom_append, hkids]
      by_cases he : t.b = t.e
      · -- an empty node: skipped; everything below it was empty as well
        have hp : prune kids = [] := prune_eq_nil_of_empty (he ▸ hwn)
        simp [astStackFrom, astStep, he, hp]
      · -- a non-empty node: pops exactly its pruned children
        have hroots := prune_roots hwn
        -- the old top is non-empty and ends at or before `lo ≤ t.b`: it does not begin inside `t`
        have hpop := popInto_block t (prune kids).reverse [] st
          (fun y hy => by have := hroots y (by simpa using hy); omega)
          (fun s hs => by have := hst s hs; omega)
        simp [astStackFrom, astStep, he, hpop]
  theorem astStackFrom_forest : ∀ (f : List TokTree) (st : List TokTree) (lo hi : Nat),
      WellNestedL lo hi f → StackBelow lo st →
      astStackFrom st (postorderL f) = (prune f).reverse ++ st
    | [], st, _, _, _, _ => by simp [astStackFrom_nil]
    | k :: ks, st, lo, hi, h, hst => by
      obtain ⟨hlo, hwk, hwks⟩ := (WellNestedL_cons ..).1 h
      have hk := astStackFrom_tree k st lo hwk hlo hst
      have hks := astStackFrom_forest ks _ k.tok.e hi hwks (hst.push_pruneT hwk hlo)
      rw [postorderL_cons, astStackFrom_append, hk, hks]
      simp
end

theorem astOf_node {t : Token} {kids : List TokTree} (h : WellNested (.node t kids)) :
    astOf (TokTree.node t kids).postorder
      = if t.b = t.e then none else some (.node t (prune kids)) := by
  rw [astOf, astStack, astStackFrom_tree _ [] t.b h (Nat.le_refl _) (StackBelow.nil _)]
  by_cases he : t.b = t.e <;> simp [he]

theorem mem_postorderL {x : Token} {k : TokTree} : ∀ {l : List TokTree},
    k ∈ l → x ∈ k.postorder → x ∈ postorderL l
  | [], hk, _ => by simp at hk
  | a :: l, hk, hx => by
    simp only [List.mem_cons] at hk
    simp only [postorderL_cons, List.mem_append]
    rcases hk with rfl | hk
    · exact Or.inl hx
    · exact Or.inr (mem_postorderL hk hx)

/-- Whatever `AST()` returns is built from the recorded tokens only (ANY token list), so its
    nodes can be sliced whenever the tokens can. -/
theorem astOf_inRange {inp : List Sym} {toks : List Token} (h : ∀ t ∈ toks, InRange inp t) :
    ∀ k ∈ astOf toks, ∀ x ∈ k.postorder, InRange inp x := by
  intro k hk x hx
  have hk' : k ∈ (astStack toks).reverse := by simpa using List.mem_of_mem_head? hk
  have hx' := mem_postorderL hk' hx
  rw [astStack, astStackFrom_postorder, List.reverse_nil, postorderL_nil, List.nil_append] at hx'
  exact h x (List.mem_filter.mp hx').1

/-! ### `print` -/

@[simp] theorem printFunc_nil (q : List Sym → String) (p : Bool) (inp : List Sym) (d : Nat) :
    printFunc q p inp d [] = some [] := by simp [printFunc]

theorem slice?_eq_some {inp : List Sym} {b e : Nat} (h1 : b ≤ e) (h2 : e ≤ inp.length) :
    slice? inp b e = some (inp.extract b e) := by
  simp [slice?, h1, h2]

mutual
  theorem printNode_eq (q : List Sym → String) (p : Bool) (inp : List Sym) :
      ∀ (k : TokTree) (d : Nat), (∀ x ∈ k.postorder, InRange inp x) →
        printNode q p inp d k = some ((preorderT d k).map (lineOf q p inp))
    | .node t kids, d, h => by
      have ht : InRange inp t := h t (by simp)
      have hk := printFunc_eq q p inp kids (d + 1) (fun x hx => h x (by simp [hx]))
      simp [printNode, slice?_eq_some ht.1 ht.2, hk, lineOf]
  theorem printFunc_eq (q : List Sym → String) (p : Bool) (inp : List Sym) :
      ∀ (f : List TokTree) (d : Nat), (∀ x ∈ postorderL f, InRange inp x) →
        printFunc q p inp d f = some ((preorder d f).map (lineOf q p inp))
    | [], d, _ => by simp
    | k :: ks, d, h => by
      have h1 := printNode_eq q p inp k d (fun x hx => h x (by simp [hx]))
      have h2 := printFunc_eq q p inp ks d (fun x hx => h x (by simp [hx]))
      simp [printFunc, h1, h2]
end

/-! ### `Execute` -/

@[simp] theorem actionTrace_nil (acts : List String) (inp : List Sym) (s : ExecState) :
    actionTrace acts inp [] s = ([], s) := by simp [actionTrace]
@[simp] theorem actionTrace_cons (acts : List String) (inp : List Sym) (k : TokTree)
    (ks : List TokTree) (s : ExecState) :
    actionTrace acts inp (k :: ks) s =
      ((actionTraceT acts inp k s).1 ++ (actionTrace acts inp ks (actionTraceT acts inp k s).2).1,
       (actionTrace acts inp ks (actionTraceT acts inp k s).2).2) := by
  simp [actionTrace]
@[simp] theorem actionTraceT_node (acts : List String) (inp : List Sym) (t : Token)
    (kids : List TokTree) (s : ExecState) :
    actionTraceT acts inp (.node t kids) s =
      ((actionTrace acts inp kids s).1 ++ (closeTok acts inp t (actionTrace acts inp kids s).2).1,
       (closeTok acts inp t (actionTrace acts inp kids s).2).2) := by
  simp [actionTraceT]

/-- The side condition of everything about `Execute`: no `_buffer[begin:end]` panics. -/
def CapturesInRange (inp : List Sym) (toks : List Token) : Prop :=
  ∀ t ∈ toks, isCapture t = true → InRange inp t

instance (inp : List Sym) (toks : List Token) : Decidable (CapturesInRange inp toks) := by
  unfold CapturesInRange; infer_instance

/-- The `Execute` loop with the slices taken for granted: fold `closeTok` over the tokens. -/
def runToks (acts : List String) (inp : List Sym) : ExecState → List Token → List ActEvent × ExecState
  | s, [] => ([], s)
  | s, t :: ts =>
    ((closeTok acts inp t s).1 ++ (runToks acts inp (closeTok acts inp t s).2 ts).1,
     (runToks acts inp (closeTok acts inp t s).2 ts).2)

theorem runToks_append (acts : List String) (inp : List Sym) : ∀ (a b : List Token) (s : ExecState),
    runToks acts inp s (a ++ b) =
      ((runToks acts inp s a).1 ++ (runToks acts inp (runToks acts inp s a).2 b).1,
       (runToks acts inp (runToks acts inp s a).2 b).2)
  | [], b, s => by simp [runToks]
  | t :: ts, b, s => by simp [runToks, runToks_append acts inp ts b]

/-- The one place where the three arms of the `switch` in `Execute` are looked at. -/
theorem executeFrom_eq (acts : List String) (inp : List Sym) : ∀ (ts : List Token) (s : ExecState),
    CapturesInRange inp ts → executeFrom acts inp s ts = some (runToks acts inp s ts)
  | [], s, _ => by simp [executeFrom, runToks]
  | t :: ts, s, h => by
    have ih := fun s' => executeFrom_eq acts inp ts s' (fun x hx => h x (by simp [hx]))
    by_cases hc : t.rule = "PegText"
    · have hr := h t (by simp) (by simp [isCapture, hc])
      simp [executeFrom, runToks, closeTok, isCapture, captureState, hc, slice?_eq_some hr.1 hr.2, ih]
    · by_cases ha : t.rule ∈ acts <;>
        simp [executeFrom, runToks, closeTok, isCapture, isAction, hc, ha, ih]

theorem execute_eq {acts : List String} {inp : List Sym} {ts : List Token}
    (h : CapturesInRange inp ts) :
    execute acts inp ts = some (runToks acts inp ExecState.init ts).1 := by
  simp [execute, executeFrom_eq acts inp ts _ h]

/-! ### The list-level trace -/

/-- Events of the tokens `ts` that follow the prefix `pre`: each action token yields one event
    carrying the last capture of everything before it. -/
def traceAfter (acts : List String) (inp : List Sym) : List Token → List Token → List ActEvent
  | _, [] => []
  | pre, t :: ts =>
    (if isAction acts t then [ActEvent.mk' t.rule (lastCapture inp pre)] else [])
      ++ traceAfter acts inp (pre ++ [t]) ts

theorem lastCapture_nil (inp : List Sym) : lastCapture inp [] = ExecState.init := by
  simp [lastCapture]

theorem lastCapture_snoc (inp : List Sym) (pre : List Token) (t : Token) :
    lastCapture inp (pre ++ [t]) =
      if isCapture t then captureState inp t else lastCapture inp pre := by
  cases h : isCapture t <;> simp [lastCapture, h]

theorem closeTok_lastCapture (acts : List String) (inp : List Sym) (pre : List Token)
    (t : Token) :
    closeTok acts inp t (lastCapture inp pre) =
      (if isAction acts t then [ActEvent.mk' t.rule (lastCapture inp pre)] else [],
       lastCapture inp (pre ++ [t])) := by
  rw [lastCapture_snoc]
  cases hc : isCapture t
  · cases ha : isAction acts t <;> simp [closeTok, hc, ha]
  · simp [closeTok, hc, isAction]

theorem runToks_traceAfter (acts : List String) (inp : List Sym) : ∀ (ts pre : List Token),
    runToks acts inp (lastCapture inp pre) ts =
      (traceAfter acts inp pre ts, lastCapture inp (pre ++ ts))
  | [], pre => by simp [runToks, traceAfter]
  | t :: ts, pre => by
    simp [runToks, closeTok_lastCapture, runToks_traceAfter acts inp ts (pre ++ [t]), traceAfter]

theorem traceAfter_append (acts : List String) (inp : List Sym) :
    ∀ (a pre b : List Token),
      traceAfter acts inp pre (a ++ b) =
        traceAfter acts inp pre a ++ traceAfter acts inp (pre ++ a) b
  | [], pre, b => by simp [traceAfter]
  | t :: ts, pre, b => by
    simp [traceAfter, traceAfter_append acts inp ts (pre ++ [t]) b]

theorem traceAfter_actions (acts : List String) (inp : List Sym) :
    ∀ (ts pre : List Token),
      (traceAfter acts inp pre ts).map (·.action) = (ts.filter (isAction acts)).map (·.rule)
  | [], pre => by simp [traceAfter]
  | t :: ts, pre => by
    cases ha : isAction acts t
    · simp [traceAfter, ha, traceAfter_actions acts inp ts (pre ++ [t])]
    · simp [traceAfter, ha, traceAfter_actions acts inp ts (pre ++ [t]), ActEvent.mk']

theorem traceAfter_length (acts : List String) (inp : List Sym) (ts pre : List Token) :
    (traceAfter acts inp pre ts).length = (ts.filter (isAction acts)).length := by
  simpa using congrArg List.length (traceAfter_actions acts inp ts pre)

/-! ### `Execute` on the post-order of a forest -/

mutual
  theorem runToks_tree (acts : List String) (inp : List Sym) : ∀ (k : TokTree) (s : ExecState),
      runToks acts inp s k.postorder = actionTraceT acts inp k s
    | .node t kids, s => by
      simp [runToks_append, runToks_forest acts inp kids s, runToks]
  theorem runToks_forest (acts : List String) (inp : List Sym) : ∀ (f : List TokTree) (s : ExecState),
      runToks acts inp s (postorderL f) = actionTrace acts inp f s
    | [], s => by simp [runToks]
    | k :: ks, s => by
      simp [runToks_append, runToks_tree acts inp k s, runToks_forest acts inp ks]
end

theorem executeFrom_tree (acts : List String) (inp : List Sym) :
    ∀ (k : TokTree) (s : ExecState), CapturesInRange inp k.postorder →
      executeFrom acts inp s k.postorder = some (actionTraceT acts inp k s) :=
  fun k s h => by rw [executeFrom_eq acts inp _ s h, runToks_tree]

/-- Forest walk and list walk are the same fold. -/
theorem actionTrace_eq_traceAfter (acts : List String) (inp : List Sym) (f : List TokTree) :
    (actionTrace acts inp f ExecState.init).1 = traceAfter acts inp [] (postorderL f) := by
  rw [← runToks_forest, ← lastCapture_nil inp, runToks_traceAfter]

end PegVerif
