import PegVerif.Proofs.RefineCases
/-
  Refinement theorem — ordered choice and repetition.
-/
namespace PegVerif

variable {M : Mode} {ua : Bool} {P : Program} {cfg : Cfg} {env : CEnv} {G : Grammar} {inp : List Sym}

/-! ### ordered choice -/

/-- The choice wrapper: `{ positionN, tokenIndexN := … ; <alternatives> } lN:` -/
theorem goodG_alt_of_tail {es p res evs} (h : GoodAltG M ua P cfg env inp es p res evs) :
    GoodG M ua P cfg env inp (.alt es) p res evs := by
  intro ko pd pmk st code pc s f hc hp hlead
  simp only [compile, List.append_assoc] at hc ⊢
  have hstart := hc.left.runs (P := P) (cfg := cfg) (inp := inp) (s := s) (f := f) rfl
  have h' := h st.label ko pd pmk { st with label := st.label + 1 } code _ s
    (f.set st.label (s.pos, s.ti)) (by simpa using hc.right) hp (Nat.lt_succ_self _)
    (by simpa [Frame.set] using M.saved_mk s) hlead
  cases res with
  | ok p' forest =>
    obtain ⟨s', f', hS, hst⟩ := h'
    exact ⟨s', f', hS.unset (Nat.le_succ _),
      (hstart.trans hst).cast (by simp [List.length_append]; omega)⟩
  | fail =>
    obtain ⟨s'', f'', hF, hj, hst⟩ := h'
    exact ⟨s'', f'', hF.unset (Nat.le_succ _), by jmp,
      fun pcko hl => hstart.trans (hst pcko hl)⟩

/-- Last alternative: its failure is the failure of the choice. -/
theorem goodAltG_last {e p res evs} (ih : GoodG M ua P cfg env inp e p res evs) :
    GoodAltG M ua P cfg env inp [e] p res evs := by
  intro ok ko pd pmk st code pc s f hc hp hok hf hlead
  simp only [compileAlt, List.append_assoc] at hc ⊢
  have h' := ih ko pd pmk st code pc s f hc.left hp hlead
  cases res with
  | ok p' forest =>
    obtain ⟨s', f', hS, hst⟩ := h'
    have hrun : runs cfg inp ([Instr.be] ++ env.lbl ok) s' f' = some (s', f') := by
      simp [runs, stepLocal, runs_lbl]
    exact ⟨s', f', hS, (hst.trans (hc.right.runs hrun)).cast (by simp; omega)⟩
  | fail => exact h'

/-- An alternative other than the last succeeds: `goto ok`. -/
theorem goodAltG_ok {e e' es p p1 f1 evs} (ih : GoodG M ua P cfg env inp e p (.ok p1 f1) evs) :
    GoodAltG M ua P cfg env inp (e :: e' :: es) p (.ok p1 f1) evs := by
  intro ok ko pd pmk st code pc s f hc hp hok hf hlead
  simp only [compileAlt, List.append_assoc] at hc ⊢
  have hu : env.used ok = true := hp.usedIn hc (by jmp)
  -- `e; goto ok; [next:] restore ok; <the other alternatives> } [ok:]`
  obtain ⟨he, hc⟩ := hc.split
  obtain ⟨hgoto, hc⟩ := hc.split
  obtain ⟨_, hc⟩ := hc.split
  obtain ⟨_, hc⟩ := hc.split
  obtain ⟨_, hc⟩ := hc.split
  obtain ⟨_, hok'⟩ := hc.split
  obtain ⟨s', f', hS, hst⟩ := ih st.label pd pmk { st with label := st.label + 1 } code pc s f he hp hlead
  obtain ⟨hlp, hcl⟩ := CodeAt.label (c := []) (by simpa using hok') hu hp.uniq
  refine ⟨s', f', hS.weaken (Nat.le_succ _), ?_⟩
  exact (hst.trans ((Steps.jump hgoto.head.1 (by simp [stepLocal]) hlp).trans (hcl.runs rfl))).cast
    (by simp [List.length_append, CEnv.lbl, hu]; omega)

/-- An alternative other than the last fails: restore the entry state, try the rest. -/
theorem goodAltG_next {e e' es p evs1 res evs2} (ih1 : GoodG M ua P cfg env inp e p .fail evs1)
    (ih2 : GoodAltG M ua P cfg env inp (e' :: es) p res evs2) :
    GoodAltG M ua P cfg env inp (e :: e' :: es) p res (evs1 ++ evs2) := by
  intro ok ko pd pmk st code pc s f hc hp hok hf hlead
  simp only [compileAlt, List.append_assoc] at hc ⊢
  -- `e; goto ok; [next:] restore ok; <the other alternatives> } [ok:]`
  obtain ⟨he, hc⟩ := hc.split
  obtain ⟨_, hlab⟩ := hc.split
  obtain ⟨s2, fr2, hF, hj, hst⟩ := ih1 st.label pd pmk { st with label := st.label + 1 } code pc s f he hp hlead
  have hu : env.used st.label = true := hp.usedIn he hj
  obtain ⟨hlp, hcl⟩ := hlab.label hu hp.uniq
  have hmono := compile_mono env e st.label pd pmk { st with label := st.label + 1 }
  have hfr : fr2 ok = f ok := hF.frame ok (Nat.lt_succ_of_lt hok)
  have hR := (hF.weaken (Nat.le_succ st.label)).restore (hfr ▸ hf)
  -- the same code, bracketed so that label and restore split off (definitionally equal)
  have hcl' : CodeAt code _ ([Instr.label st.label, Instr.restore ok] ++
      ((compileAlt env (e' :: es) ok ko false false
        (compile env e st.label pd pmk { st with label := st.label + 1 }).st).code ++ ([Instr.be] ++ env.lbl ok))) := hcl
  have hsteps := (hst _ hlp).trans (hcl'.left.runs (s := s2) (f := fr2) rfl)
  have h' := ih2 ok ko false false _ code _ _ fr2 (by simpa using hcl'.right)
    (hp.move (hR.pos.trans hp.pos) hp.ple hR.inv)
    (by simp at hmono; omega) (M.saved_self _ _) (LeadL_false _ _ _ _)
  cases res with
  | ok p' forest =>
    obtain ⟨s', f', hS, hst2⟩ := h'
    refine ⟨s', f', by simpa using hR.trans hS (by simp at hmono ⊢; omega), ?_⟩
    exact (hsteps.trans hst2).cast (by simp [List.length_append, CEnv.lbl, hu]; omega)
  | fail =>
    obtain ⟨s4, f4, hF2, hj2, hst2⟩ := h'
    refine ⟨s4, f4, by simpa using hR.trans_failed hp.inv hF2 (by simp at hmono ⊢; omega),
      by jmp, fun pcko hl => hsteps.trans (hst2 pcko hl)⟩

/-! ### repetition -/

/-- The head of the loop: the label `again` (printed iff the body can succeed), `{`, the save. -/
theorem loop_head {again out : Nat} {c : Code} {code pc} {s : St} {f : Frame}
    (hc : CodeAt code pc (env.lbl again ++ ([Instr.bb, Instr.save out] ++ c))) :
    Steps P cfg inp code pc s f (pc + (env.lbl again).length + 2) s (f.set out (s.pos, s.ti)) := by
  exact ((hc.left.runs (runs_lbl env again s f)).trans (hc.right.left.runs rfl)).cast (by simp)

/-- The repeated expression fails: leave the loop through `out`, restoring the iteration's entry. -/
theorem goodLoopG_stop {e p evs} (ih : GoodG M ua P cfg env inp e p .fail evs) :
    GoodLoopG M ua P cfg env inp e p (.ok p []) evs := by
  intro again out stb code pc s f hc hp hag hout
  simp only [loopCode, List.append_assoc] at hc ⊢
  -- `[again:] { save out; body; goto again; [out:] restore out }`
  obtain ⟨_, hc1⟩ := hc.split
  obtain ⟨_, hc1⟩ := hc1.split
  obtain ⟨hbody, hc1⟩ := hc1.split
  obtain ⟨_, hlab⟩ := hc1.split
  obtain ⟨s2, fr2, hF, hj, hst⟩ := ih out false false stb code _ s (f.set out (s.pos, s.ti))
    hbody hp (Lead_false _ _ _ _)
  have hu : env.used out = true := hp.usedIn hbody hj
  obtain ⟨hlp, hcl⟩ := hlab.label hu hp.uniq
  have hR := hF.restore (saved_after M hout hF.frame)
  have hframe : ∀ n, n < stb.label → n ≠ out → fr2 n = f n := by
    intro n hn hne; rw [hF.frame n hn]; simp [Frame.set, hne]
  refine ⟨_, fr2, ⟨hp.pos ▸ hR.pos, hR.ok, fun n hn => hframe n (by omega) (by omega)⟩, hframe, ?_⟩
  exact (loop_head hc |>.trans ((hst _ hlp).trans (hcl.runs rfl))).cast
    (by simp [List.length_append, CEnv.lbl, hu]; omega)

/-- One more iteration succeeds: `goto again` re-enters the same code. -/
theorem goodLoopG_step {e p p1 f1 evs1 p2 f2 evs2}
    (hev : Eval G cfg.rho inp e p (.ok p1 f1) evs1)
    (ih1 : GoodG M ua P cfg env inp e p (.ok p1 f1) evs1)
    (ih2 : GoodLoopG M ua P cfg env inp e p1 (.ok p2 f2) evs2) :
    GoodLoopG M ua P cfg env inp e p (.ok p2 (f1 ++ f2)) (evs1 ++ evs2) := by
  intro again out stb code pc s f hcAll hp hag hout
  have hc := hcAll
  simp only [loopCode, List.append_assoc] at hc
  have hua : env.used again = true := hp.usedIn hc (by jmp)
  obtain ⟨hlp, _⟩ := hc.label hua hp.uniq
  -- `[again:] { save out; body; goto again; [out:] restore out }`
  obtain ⟨_, hc1⟩ := hc.split
  obtain ⟨_, hc1⟩ := hc1.split
  obtain ⟨hbody, hc1⟩ := hc1.split
  obtain ⟨hgoto, _⟩ := hc1.split
  obtain ⟨s1, fr1, hS, hst⟩ := ih1 out false false stb code _ s (f.set out (s.pos, s.ti))
    hbody hp (Lead_false _ _ _ _)
  obtain ⟨s', f', hS2, hfr2, hst2⟩ := ih2 again out stb code pc s1 fr1 hcAll (hp.after hev hS) hag hout
  refine ⟨s', f', ?_, ?_, ?_⟩
  · rw [postorderL_append]
    exact ((hS.unset (Nat.le_of_lt hout)).weaken (Nat.min_le_right _ _)).trans hS2 (Nat.le_refl _)
  · intro n hn hne
    rw [hfr2 n hn hne, hS.frame n hn]; simp [Frame.set, hne]
  · exact (loop_head hc).trans (hst.trans
      ((Steps.jump hgoto.head.1 (by simp [stepLocal]) hlp).trans hst2))

theorem goodG_star_of_loop {e p res evs} (h : GoodLoopG M ua P cfg env inp e p res evs) :
    GoodG M ua P cfg env inp (.star e) p res evs := by
  intro ko pd pmk st code pc s f hc hp _
  have h' := h st.label (st.label + 1) { st with label := st.label + 2 } code pc s f
    (by simpa [compile, loopCode] using hc) hp (by simp) (by simp)
  cases res with
  | ok p' forest =>
    obtain ⟨s', f', hS, _, hst⟩ := h'
    exact ⟨s', f', by simpa using hS, hst.cast (by simp [compile, loopCode])⟩
  | fail => exact h'.elim

theorem goodG_plus_fail {e p evs} (ih : GoodG M ua P cfg env inp e p .fail evs) :
    GoodG M ua P cfg env inp (.plus e) p .fail evs := by
  intro ko pd pmk st code pc s f hc hp _
  simp only [compile, List.append_assoc] at hc ⊢
  obtain ⟨s2, fr2, hF, hj, hst⟩ := ih ko false false { st with label := st.label + 2 } code pc s f hc.left hp
    (Lead_false _ _ _ _)
  exact ⟨s2, fr2, hF.weaken (by simp), by jmp, hst⟩

theorem goodG_plus_ok {e p p1 f1 evs1 p2 f2 evs2}
    (hev : Eval G cfg.rho inp e p (.ok p1 f1) evs1)
    (ih1 : GoodG M ua P cfg env inp e p (.ok p1 f1) evs1)
    (ih2 : GoodLoopG M ua P cfg env inp e p1 (.ok p2 f2) evs2) :
    GoodG M ua P cfg env inp (.plus e) p (.ok p2 (f1 ++ f2)) (evs1 ++ evs2) := by
  intro ko pd pmk st code pc s f hc hp _
  have hc' : CodeAt code pc ((compile env e ko false false { st with label := st.label + 2 }).code ++
      loopCode env e st.label (st.label + 1) (compile env e ko false false { st with label := st.label + 2 }).st) := by
    simpa [compile, loopCode] using hc
  obtain ⟨s1, fr1, hS, hst⟩ := ih1 ko false false { st with label := st.label + 2 } code pc s f hc'.left hp (Lead_false _ _ _ _)
  have hmono := compile_mono env e ko false false { st with label := st.label + 2 }
  obtain ⟨s', f', hS2, _, hst2⟩ := ih2 st.label (st.label + 1) _ code _ s1 fr1 hc'.right (hp.after hev hS)
    (by simp at hmono; omega) (by simp at hmono; omega)
  refine ⟨s', f', ?_, (hst.trans hst2).cast (by simp [compile, loopCode, List.length_append]; omega)⟩
  rw [postorderL_append]
  exact (hS.weaken (lbl := st.label) (by simp)).trans (by simpa using hS2) (Nat.le_refl _)

end PegVerif
