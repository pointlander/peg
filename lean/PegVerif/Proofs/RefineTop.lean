import PegVerif.Proofs.CoreLemmas
import PegVerif.Proofs.Refine
import PegVerif.Proofs.RefineTopDefs
import PegVerif.Proofs.EventLemmas
import PegVerif.Proofs.MachineLemmas
/-
  The refinement theorem at the mode of parsers with token buffer and memo table (`astMode`): `R_all`,
  and what it gives for one emitted rule function (`R_rule_all`).  What is particular to this mode is
  the memo invariant `MemoOK` with the absorption lemma: a memo hit cannot be told from a re-run.
-/
namespace PegVerif

theorem treeAdd_live (tree : List Token) (t : Token) (i : Nat) (h : i ≤ tree.length) :
    (treeAdd tree t i).take (i + 1) = tree.take i ++ [t] ∧ i + 1 ≤ (treeAdd tree t i).length := by
  unfold treeAdd
  split
  · -- `i = tree.length`: the token is appended
    obtain rfl : i = tree.length := by omega
    simp [List.take_of_length_le]
  · -- `i < tree.length`: slot `i` is overwritten, the prefix below it is untouched
    have hlt : i < tree.length := by omega
    refine ⟨?_, by simp; omega⟩
    rw [List.take_add_one, List.take_set_of_le (Nat.le_refl i), List.getElem?_set_self hlt]
    rfl

section
variable {I : MInv} {P : Program} {cfg : Cfg} {env : CEnv} {G : Grammar} {inp : List Sym}

/-! ### The nodes that touch the token buffer -/

/-- A user statement `!{…}` changes only the trace. -/
theorem ast_stmt {p c} : GoodG (astMode I) true P cfg env inp (.stmt c) p (.ok p []) [] := by
  intro ko pd pmk st code pc s f hc hp _
  simp only [compile] at hc ⊢
  exact ⟨{ s with trace := s.trace ++ [(c, s.text)] }, f,
    ⟨hp.pos, ⟨by simp, by simp, hp.inv.1, by simp, hp.inv.2⟩, fun _ _ => rfl⟩, hc.runs rfl⟩

/-- `add(rule, begin)` at a state whose live prefix is in the buffer: one more live token; the memo
    table is left alone and `maxToken` can only move forward. -/
theorem doAdd_ok (hast : cfg.ast = true) (r : String) (b : Nat) {s : St} (hi : (astMode I).Inv s) :
    AstOk I s (doAdd cfg r b s) [⟨r, b, s.pos⟩] [⟨r, b, s.pos⟩] := by
  obtain ⟨hlive, hlen⟩ := treeAdd_live s.tree ⟨r, b, s.pos⟩ s.ti hi.1
  refine ⟨by simp [doAdd], by simpa [doAdd, hast] using hlive, by simpa [doAdd, hast] using hlen,
    by rw [doAdd_maxTok]; simp, ?_⟩
  have hm : (doAdd cfg r b s).memo = s.memo := by simp [doAdd]
  rw [hm, doAdd_maxTok]
  exact I.mono (by unfold updTok; split <;> omega) hi.2

/-- `<e>` and the implicit push of a rule: body, then `add(rule, positionN)`. -/
theorem ast_wrap_ok (hast : cfg.ast = true) {w e : Expr} {r p p1 f1 evs}
    (hw : ∀ ko pd pmk st, (compile env w ko pd pmk st).code =
      [.bb, .savePos st.label] ++ ((compile env e ko pd pmk { st with label := st.label + 1 }).code ++
        [.add r st.label, .be]))
    (hev : Eval G cfg.rho inp e p (.ok p1 f1) evs)
    (ih : GoodG (astMode I) true P cfg env inp e p (.ok p1 f1) evs)
    (hl : ∀ pd pmk, Lead inp p pd pmk w → Lead inp p pd pmk e := by exact fun _ _ h => h) :
    GoodG (astMode I) true P cfg env inp w p (.ok p1 [.node ⟨r, p, p1⟩ f1]) (evs ++ [⟨r, p, p1⟩]) :=
  goodG_wrap_ok (tail := fun st => [.add r st.label, .be]) hw hev ih (hl := hl)
    fun st s1 fr hpos hfr _ _ hi =>
    ⟨doAdd cfg r p s1, by simp [runs, stepLocal, hfr], by simp [doAdd, hpos], hpos ▸ doAdd_ok hast r p hi⟩

/-- An action rule: `add(ruleActionN, position)`. -/
theorem ast_wrap_act (hast : cfg.ast = true) {w : Expr} {r p}
    (hw : ∀ ko pd pmk st, (compile env w ko pd pmk st).code = [.bb, .addHere r, .be]) :
    GoodG (astMode I) true P cfg env inp w p (.ok p [.node ⟨r, p, p⟩ []]) [⟨r, p, p⟩] :=
  goodG_emit fun ko pd pmk st s f hpos hi =>
    ⟨doAdd cfg r s.pos s, by simp [hw, runs, stepLocal], by simp [doAdd, hpos], hpos ▸ doAdd_ok hast r s.pos hi⟩

end

section
variable [MInv] {P : Program} {cfg : Cfg} {env : CEnv} {G : Grammar} {inp : List Sym}

theorem good_ualt {ks : List KeySet} {es : List Expr} {e : Expr} {p res evs}
    (hidx : es[caseIdx (ks.take (es.length - 1)) (peek inp p)]? = some e)
    (hcl : casesLeadOK ks es = true)
    (ih : Good P cfg env inp e p res evs) :
    Good P cfg env inp (.ualt ks es) p res evs :=
  good_iff.mpr (goodG_ualt rfl hidx hcl (good_iff.mp ih))

end

variable {P : Program} {cfg : Cfg} {env : CEnv} {G : Grammar} {inp : List Sym}

/-! ### The memoisation invariant -/

/-- A memo entry agrees with the semantics of (every) rule that uses its key: the outcome of the
    rule at that position, the tokens of the success, and — what makes a replay invisible to
    `maxToken` — every non-empty token attempted while it was computed ends at or before `mtE`. -/
def EntryOK (P : Program) (G : Grammar) (ρ : String → Nat → Bool) (inp : List Sym) (mtE : Nat)
    (m : MemoEntry) : Prop :=
  ∀ n, (P.find n).isSome = true → G.idOf n = m.id →
    ∃ res evs, Eval G ρ inp (.name n) m.pos res evs ∧ m.pos ≤ inp.length ∧
      (∀ t ∈ evs, t.b ≠ t.e → t.e ≤ mtE) ∧
      match res with
      | .ok p' forest => m.matched = true ∧ m.part = postorderL forest ∧
          ∃ last, m.part.getLast? = some last ∧ last.e = p' ∧ last ∈ evs
      | .fail => m.matched = false

/-- The memo invariant: every entry of the table is right (`EntryOK`) with respect to the end `mtE` of
    the current `maxToken`. -/
def MemoOK (P : Program) (G : Grammar) (ρ : String → Nat → Bool) (inp : List Sym)
    (memo : List MemoEntry) (mtE : Nat) : Prop :=
  ∀ m ∈ memo, EntryOK P G ρ inp mtE m

theorem EntryOK.mono {P G ρ inp e e' m} (h : e ≤ e') (hm : EntryOK P G ρ inp e m) :
    EntryOK P G ρ inp e' m := by
  intro n hn hid
  obtain ⟨res, evs, h1, h2, h3, h4⟩ := hm n hn hid
  exact ⟨res, evs, h1, h2, fun t ht hne => Nat.le_trans (h3 t ht hne) h, h4⟩

@[reducible] def memoInv (P : Program) (G : Grammar) (ρ : String → Nat → Bool) (inp : List Sym) : MInv where
  ok := MemoOK P G ρ inp
  mono := fun h hm m hmem => (hm m hmem).mono h

/-- Absorption: if no non-empty token of `evs` ends beyond `mt`, folding `add`'s update over
    `evs` leaves `mt` unchanged — a memo hit is indistinguishable from re-running the rule. -/
theorem foldl_updTok_absorb (evs : List Token) (mt : Token)
    (h : ∀ t ∈ evs, t.b ≠ t.e → t.e ≤ mt.e) : evs.foldl updTok mt = mt := by
  induction evs with
  | nil => rfl
  | cons t ts ih =>
    have ht : updTok mt t = mt := by
      unfold updTok
      split
      · next hc => have := h t (by simp) hc.1; omega
      · rfl
    simp only [List.foldl_cons, ht]
    exact ih (fun x hx => h x (by simp [hx]))

/-- The last token of a rule application is the rule's own: `memoizedResult` reads the end position
    of a hit from it. -/
theorem ipush_last {G : Grammar} {ρ : String → Nat → Bool} {inp : List Sym} {e n p p' forest evs}
    (h : Eval G ρ inp (.ipush e n) p (.ok p' forest) evs) :
    ∃ last, (postorderL forest).getLast? = some last ∧ last.e = p' ∧ last ∈ evs := by
  cases h with
  | ipush_ok _ _ => exact ⟨⟨n, p, p'⟩, by simp, rfl, by simp⟩
  | ipush_act => exact ⟨⟨n, p, p⟩, by simp, rfl, by simp⟩

/-- What the emitted function of rule `n` returns, as prescribed by the semantics of `n`. -/
def RuleSpec (P : Program) (G : Grammar) (ρ : String → Nat → Bool) (inp : List Sym) (s : St) (p : Nat) (res : Res)
    (evs : List Token) (o : Outcome) (s' : St) : Prop :=
  match res with
  | .ok p' forest => o = .ret true ∧ s'.pos = p' ∧ s'.ti = s.ti + (postorderL forest).length ∧
      s'.tree.take s'.ti = s.tree.take s.ti ++ postorderL forest ∧ s'.ti ≤ s'.tree.length ∧
      s'.maxTok = evs.foldl updTok s.maxTok ∧ MemoOK P G ρ inp s'.memo s'.maxTok.e
  | .fail => o = .ret false ∧ s'.pos = p ∧ s'.ti = s.ti ∧ s'.tree.take s.ti = s.tree.take s.ti ∧
      s.ti ≤ s'.tree.length ∧ s'.maxTok = evs.foldl updTok s.maxTok ∧ MemoOK P G ρ inp s'.memo s'.maxTok.e

/-- `RuleSpec` is `RuleG` at this mode, read by name. -/
theorem RuleSpec.obs {P : Program} {G : Grammar} {ρ : String → Nat → Bool} {inp : List Sym}
    {s p res evs o s'} (h : RuleSpec P G ρ inp s p res evs o s') :
    RuleG (astMode (memoInv P G ρ inp)) s p res evs o s' := by
  cases res with
  | ok p' f =>
    obtain ⟨ho, hp, hti, hlive, hlen, hmt, hmemo⟩ := h
    exact ⟨⟨ho, hp⟩, hti, hlive, hlen, hmt, hmemo⟩
  | fail =>
    obtain ⟨ho, hp, hti, hkeep, hlen, hmt, hmemo⟩ := h
    exact ⟨⟨ho, hp⟩, by simpa [Res.toks] using hti, by simpa [Res.toks, hti] using hkeep,
      hti ▸ hlen, hmt, hmemo⟩

/-- `memoize(rule, begin, tokenIndexBegin, matched)` falls through; with memoisation on it stores
    an entry under the key saved in slot `n`. -/
theorem memoSave_step (id n : Nat) (b : Bool) {s : St} {f : Frame}
    (h : b = true → (f n).2 ≤ s.ti ∧ s.ti ≤ s.tree.length) :
    ∃ m, stepLocal cfg inp (.memoSave id n b) s f = .next { s with memo := m } f ∧
      (m = s.memo ∨
        m = ⟨id, (f n).1, b, if b then s.tree.extract (f n).2 s.ti else []⟩ :: s.memo) := by
  by_cases hcm : cfg.memo = true
  · cases b with
    | false => exact ⟨_, by simp [stepLocal, hcm], .inr rfl⟩
    | true => exact ⟨_, by simp [stepLocal, hcm, h rfl], .inr rfl⟩
  · exact ⟨s.memo, by simp [stepLocal, hcm], .inl rfl⟩

/-- The shape of an emitted rule function with token buffer and memo table; the failure tail exists
    iff something jumps to the rule's failure label. -/
theorem ruleFunc_ast (hast : env.ast = true) (r : Rule) (b : Expr) (kr : Nat) (stb : CSt) :
    (ruleFunc env r b kr stb).1 =
      [Instr.memoCheck r.id, Instr.save kr] ++ ((compile env b kr false false stb).code ++
        ([Instr.memoSave r.id kr true, Instr.retT] ++ (if env.used kr = true then
          [Instr.label kr, Instr.memoSave r.id kr false, Instr.restore kr, Instr.retF] else []))) := by
  simp [ruleFunc, hast]

/-- Running the emitted function of rule `n` from a state that satisfies the precondition returns
    what the semantics of its body says — whether the memo table has an entry for it or not. -/
theorem ast_callee (hW : World P cfg env G inp) {n : String} {cr : Code} {b : Expr} {p res evs}
    (hfind : P.find n = some cr) (hb : G.body n = some b) (hev : Eval G cfg.rho inp b p res evs)
    (ih : GoodG (astMode (memoInv P G cfg.rho inp)) true P cfg env inp b p res evs) {s : St}
    (hpos : s.pos = p) (hple : p ≤ inp.length) (hlen : s.ti ≤ s.tree.length)
    (hm : MemoOK P G cfg.rho inp s.memo s.maxTok.e) :
    ∃ o s', Exec P cfg inp cr 0 s Frame.empty (o, s') ∧ RuleSpec P G cfg.rho inp s p res evs o s' := by
  obtain ⟨r, kr, stb, e, hfn, hid, hshape⟩ := hW.func hfind hb
  -- `memoizedResult; save kr; body; memoize(…, true); return true; [kr: memoize(…, false); restore kr; return false]`
  obtain ⟨hhead, hc⟩ := (CodeAt.whole_eq (hfn.code.trans (ruleFunc_ast hW.envAst r b kr stb))).split
  obtain ⟨hbody, hc⟩ := hc.split
  obtain ⟨hok, htail⟩ := hc.split
  have hcheck := hhead.head.1
  have hmemoT := hok.head.1
  have hretT := hok.head.2.head.1
  have hevn : Eval G cfg.rho inp (.name n) p res evs := Eval.name hb hev
  have hsome : (P.find n).isSome = true := by rw [hfind]; rfl
  cases hfm : memoFind s.memo r.id s.pos with
  | some m =>
    -- a hit: the entry agrees with the semantics, and replaying it leaves `maxToken` alone
    have hkey : m.id = r.id ∧ m.pos = s.pos := by simpa using List.find?_some hfm
    obtain ⟨res', evs', hev', _, habs, hmatch⟩ :=
      hm m (List.mem_of_find?_eq_some hfm) n hsome (by rw [hkey.1, hid])
    rw [hkey.2, hpos] at hev'
    obtain ⟨rfl, rfl⟩ := Eval_det hev' hevn
    have hfold : evs'.foldl updTok s.maxTok = s.maxTok := foldl_updTok_absorb _ _ habs
    cases res' with
    | ok p' forest =>
      obtain ⟨hmt, hpart, last, hlast, hle, hin⟩ := hmatch
      have hnoupd : ¬ (last.b ≠ last.e ∧ last.e > s.maxTok.e) := fun hc2 => by
        have := habs last hin hc2.1; omega
      have hstep : stepLocal cfg inp (.memoCheck r.id) s Frame.empty = .ret true
          { s with tree := s.tree.take s.ti ++ m.part, ti := s.ti + m.part.length, pos := last.e } := by
        have hnl : ¬ s.ti > s.tree.length := by omega
        simp [stepLocal, hfm, hmt, hnl, hlast, hnoupd]
      refine ⟨_, _, Exec.ret hcheck hstep, rfl, hle, by simp [hpart], ?_, ?_, by simp [hfold], by simpa using hm⟩
      · simp only [hpart]
        exact List.take_of_length_le (by simp [Nat.min_eq_left hlen])
      · simp [List.length_take, Nat.min_eq_left hlen]
    | fail =>
      have hstep : stepLocal cfg inp (.memoCheck r.id) s Frame.empty = .ret false s := by
        simp [stepLocal, hfm, hmatch]
      exact ⟨_, s, Exec.ret hcheck hstep, rfl, hpos, rfl, rfl, hlen, by simp [hfold], hm⟩
  | none =>
    have hpre : PreG (astMode (memoInv P G cfg.rho inp)) true env inp cr s p :=
      ⟨hfn.uniq, fun _ => hfn.suniq, hfn.used, hpos, hple, hlen, hm⟩
    have hstart : Steps P cfg inp cr 0 s Frame.empty _ s (Frame.empty.set kr (s.pos, s.ti)) :=
      hhead.runs (by simp [runs, stepLocal, hfm])
    have h' := ih kr false false stb cr _ s (Frame.empty.set kr (s.pos, s.ti)) hbody hpre
      (Lead_false _ _ _ _)
    -- the entry that `memoize` stores is valid under the final `maxToken`; stated for any `mt`, `matched`,
    -- `part` with their defining facts, because it serves the success entry and the failure entry below
    have hentry : ∀ (mt : Token) (matched : Bool) (part : List Token), mt = evs.foldl updTok s.maxTok →
        (match res with
         | .ok p' forest => matched = true ∧ part = postorderL forest
         | .fail => matched = false) →
        EntryOK P G cfg.rho inp mt.e ⟨r.id, p, matched, part⟩ := by
      intro mt matched part hmt hmp n' hn' hid'
      obtain rfl : n' = n := hW.idInj n' n hn' hsome (by rw [hid']; exact hid)
      refine ⟨res, evs, hevn, hple, fun t ht hne => ?_, ?_⟩
      · rw [hmt]
        exact (foldl_updTok_spec evs s.maxTok).2.2 t ht hne
      · cases res with
        | ok p' forest =>
          subst hshape
          obtain ⟨last, l1, l2, l3⟩ := ipush_last hev
          exact ⟨hmp.1, hmp.2, last, by rw [hmp.2]; exact l1, l2, l3⟩
        | fail => exact hmp
    cases res with
    | ok p' forest =>
      obtain ⟨s', f', hS, hst⟩ := h'
      have hfr : f' kr = (p, s.ti) := by rw [hS.frame kr hfn.lt]; simp [Frame.set, hpos]
      have hti : s.ti ≤ s'.ti := by rw [hS.ok.ti]; omega
      obtain ⟨m, hstep, hmemo⟩ := memoSave_step (cfg := cfg) (inp := inp) r.id kr true (s := s') (f := f')
        (fun _ => by rw [hfr]; exact ⟨hti, hS.ok.len⟩)
      have hrun : Exec P cfg inp cr 0 s Frame.empty (.ret true, { s' with memo := m }) :=
        hstart _ (hst _ (Exec.next hmemoT hstep (Exec.ret hretT (by simp [stepLocal]))))
      refine ⟨_, _, hrun, rfl, hS.pos, hS.ok.ti, hS.ok.live, hS.ok.len, hS.ok.maxTok, ?_⟩
      rcases hmemo with rfl | rfl
      · exact hS.ok.memo
      · have hext : s'.tree.extract s.ti s'.ti = postorderL forest :=
          extract_of_take _ _ _ _ _ hS.ok.live (by simp [List.length_take, Nat.min_eq_left hlen])
        intro x hx
        rcases List.mem_cons.mp hx with rfl | hx
        · rw [hfr]; exact hentry s'.maxTok true _ hS.ok.maxTok ⟨rfl, by simp [hext]⟩
        · exact hS.ok.memo x hx
    | fail =>
      obtain ⟨s2, f2, hF, hj, hst⟩ := h'
      have hu : env.used kr = true := hfn.used kr (jumps_sub_of_codeAt hbody kr hj)
      have hcl := htail
      simp only [hu, ↓reduceIte] at hcl
      have hfr : f2 kr = (p, s.ti) := by rw [hF.frame kr hfn.lt]; simp [Frame.set, hpos]
      obtain ⟨m, hstep, hmemo⟩ := memoSave_step (cfg := cfg) (inp := inp) r.id kr false (s := s2) (f := f2)
        (fun h => nomatch h)
      -- `kr: memoize(…, false); restore kr; return false`
      have hlp := labelPos_of_uniq hfn.uniq hcl
      obtain ⟨hlabel, hcl⟩ := hcl.head
      obtain ⟨hsave, hcl⟩ := hcl.head
      obtain ⟨hres, hcl⟩ := hcl.head
      have hretF := hcl.head.1
      have hrestore : stepLocal cfg inp (.restore kr) { s2 with memo := m } f2 =
          .next { s2 with memo := m, pos := p, ti := s.ti } f2 := by simp [stepLocal, hfr]
      have hrun : Exec P cfg inp cr 0 s Frame.empty
          (.ret false, { s2 with memo := m, pos := p, ti := s.ti }) :=
        hstart _ (hst _ hlp _ (Exec.next hlabel (by rfl)
          (Exec.next hsave hstep (Exec.next hres hrestore (Exec.ret hretF (by rfl))))))
      refine ⟨_, _, hrun, rfl, rfl, rfl, by simpa using hF.ko.keep, hF.ko.len, hF.ko.maxTok, ?_⟩
      rcases hmemo with rfl | rfl
      · exact hF.ko.memo
      · intro x hx
        rcases List.mem_cons.mp hx with rfl | hx
        · rw [hfr]; exact hentry s2.maxTok false _ hF.ko.maxTok rfl
        · exact hF.ko.memo x hx

theorem ast_name (hW : World P cfg env G inp) {n b p res evs} (hb : G.body n = some b)
    (hfine : (Expr.name n).fineS P) (hev : Eval G cfg.rho inp b p res evs)
    (ih : GoodG (astMode (memoInv P G cfg.rho inp)) true P cfg env inp b p res evs) :
    GoodG (astMode (memoInv P G cfg.rho inp)) true P cfg env inp (.name n) p res evs := by
  obtain ⟨cr, hfind⟩ := Option.isSome_iff_exists.mp hfine
  refine goodG_call hfind (fun ha hres => hW.always n ha p evs (hres ▸ Eval.name hb hev)) fun s hpos hple hi => ?_
  obtain ⟨o, s', hex, hspec⟩ := ast_callee hW hfind hb hev ih hpos hple hi.1 hi.2
  exact ⟨o, s', hex, hspec.obs⟩

theorem astCases (hW : World P cfg env G inp) :
    Cases (astMode (memoInv P G cfg.rho inp)) true P cfg env G inp (Expr.fineS P) where
  inpOK := hW.inpOK
  part := fineS_part
  body {n b} h hb := by
    obtain ⟨cr, hfind⟩ := Option.isSome_iff_exists.mp h
    exact hW.body_fineS hfind hb
  fineS := id
  ualt _ := rfl
  name h hb hev ih := ast_name hW hb h hev ih
  stmt _ := ast_stmt
  push_ok _ hn hev ih := ast_wrap_ok hW.ast (fun ko pd pmk st => by simpa [hW.envAst] using compile_push_nonact (env := env) hn _ ko pd pmk st)
    hev ih
  push_act _ := ast_wrap_act hW.ast (by intro ko pd pmk st; simp [compile, hW.envAst])
  ipush_ok _ hn hev ih := ast_wrap_ok hW.ast (compile_ipush_nonact hn _) hev ih
  ipush_act _ := ast_wrap_act hW.ast (by intro ko pd pmk st; simp [compile, hW.envAst])

/-- **R**: for every derivation of the PEG semantics, the emitted code of the expression does the
    same — verdict, consumed prefix, recorded tokens (the live prefix grows by exactly the
    post-order of the derivation forest), `maxToken` — from any point of any rule body, with the
    memo invariant `MemoOK` kept. -/
theorem R_all (hW : World P cfg env G inp) {e p res evs} (h : Eval G cfg.rho inp e p res evs)
    (hf : e.fineS P) : MotiveG (astMode (memoInv P G cfg.rho inp)) true P cfg env inp e p res evs :=
  RG_all (astCases hW) h hf

theorem memoOK_nil {P G ρ inp e} : MemoOK P G ρ inp [] e := by intro m hm; cases hm

/-- `memoOK_nil` at the fresh parser; as an argument of `R_rule` it also fixes the start state. -/
theorem memoOK_init {P G ρ inp} : MemoOK P G ρ inp St.init.memo St.init.maxTok.e := memoOK_nil

/-- **R for a rule function**: there is a run of the emitted function of `n` from any admissible
    state, and it satisfies `RuleSpec`. -/
theorem R_rule (hW : World P cfg env G inp) {n cr p res evs s}
    (hfind : P.find n = some cr) (hev : Eval G cfg.rho inp (.name n) p res evs)
    (hpos : s.pos = p) (hple : p ≤ inp.length) (hlen : s.ti ≤ s.tree.length)
    (hm : MemoOK P G cfg.rho inp s.memo s.maxTok.e) :
    ∃ o s', Exec P cfg inp cr 0 s Frame.empty (o, s') ∧ RuleSpec P G cfg.rho inp s p res evs o s' := by
  obtain ⟨b, hb, hev'⟩ := hev.name_inv
  have hfine := (astCases hW).body (n := n) (Option.isSome_iff_exists.mpr ⟨cr, hfind⟩) hb
  exact ast_callee hW hfind hb hev' (R_all hW hev' hfine).1 hpos hple hlen hm

/-- … and because the machine is deterministic, every run satisfies it. -/
theorem R_rule_all (hW : World P cfg env G inp) {n cr p res evs s o s'}
    (hfind : P.find n = some cr) (hev : Eval G cfg.rho inp (.name n) p res evs)
    (hpos : s.pos = p) (hple : p ≤ inp.length) (hlen : s.ti ≤ s.tree.length)
    (hm : MemoOK P G cfg.rho inp s.memo s.maxTok.e)
    (hrun : Exec P cfg inp cr 0 s Frame.empty (o, s')) : RuleSpec P G cfg.rho inp s p res evs o s' :=
  Exec.all_of_ex (R_rule hW hfind hev hpos hple hlen hm) hrun

end PegVerif
