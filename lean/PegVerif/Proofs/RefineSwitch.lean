import PegVerif.Proofs.RefineAlt
/-
  Refinement theorem — `TypeUnorderedAlternate` (`-switch`):

      { switch buffer[position] { case k₀: body₀ [break] … default: bodyₙ [break] } } lN:

  flattened as  `bb; switchOn sw keys; slabel sw 0; body₀; [brk sw;] sjmp sw; …; send sw; be; lN:`.
  The case bodies (all but the default) are compiled with `parentDetect`, so their leading terminal
  test may be elided; `casesLeadOK` (part of `Expr.fineS`) justifies the elision: the switch
  selects case `k` only if the next symbol is one of its keys.
-/
namespace PegVerif

variable {M : Mode} {ua : Bool} {P : Program} {cfg : Cfg} {env : CEnv} {G : Grammar} {inp : List Sym}

/-! ### The machine's case selection is the semantics' -/

theorem caseIndex_eq_caseIdx (keys : List KeySet) (c : Sym) : caseIndex keys c = caseIdx keys c := rfl

theorem casesLeadOK_get : ∀ {ks : List KeySet} {es : List Expr} {k : Nat} {e : Expr},
    casesLeadOK ks es = true → es[k]? = some e → k + 1 < es.length →
    ∃ K, ks[k]? = some K ∧ leadOK K true (decide (K.card > 1)) e = true
  | _, [], k, e, _, hk, _ => by simp at hk
  | _, [_], k, e, _, _, hlt => by simp at hlt
  | [], _ :: _ :: _, k, e, h, _, _ => by simp [casesLeadOK] at h
  | K :: ks, e0 :: e1 :: es, 0, e, h, hk, _ => by
    simp only [casesLeadOK, Bool.and_eq_true] at h
    simp only [List.getElem?_cons_zero, Option.some.injEq] at hk
    subst hk
    exact ⟨K, rfl, h.1⟩
  | K :: ks, e0 :: e1 :: es, k + 1, e, h, hk, hlt => by
    simp only [casesLeadOK, Bool.and_eq_true] at h
    simp only [List.getElem?_cons_succ] at hk
    have := casesLeadOK_get (ks := ks) (es := e1 :: es) (k := k) h.2 hk
      (by simp only [List.length_cons] at hlt ⊢; omega)
    simpa only [List.getElem?_cons_succ] using this

theorem casesLeadOK_length : ∀ {ks : List KeySet} {es : List Expr},
    casesLeadOK ks es = true → es.length - 1 ≤ ks.length
  | _, [], _ => by simp
  | _, [_], _ => by simp
  | [], _ :: _ :: _, h => by simp [casesLeadOK] at h
  | K :: ks, e0 :: e1 :: es, h => by
    simp only [casesLeadOK, Bool.and_eq_true] at h
    have := casesLeadOK_length h.2
    simp only [List.length_cons] at this ⊢
    omega

/-! ### One case body -/

/-- A run of one case of the flattened switch `sw` from its label at `pck`: a success stands before an
    instruction that leaves the switch (`brk sw` or `sjmp sw`), a failure at the failure label `done`
    of the switch, to which the code `jc` holds a jump. -/
def CaseRuns (M : Mode) (P : Program) (cfg : Cfg) (inp : List Sym) (code : Code) (sw done lbl : Nat)
    (jc : Code) (pck : Nat) (s : St) (f : Frame) (res : Res) (evs : List Token) : Prop :=
  match res with
  | .ok p' forest => ∃ s' f' pce ie, SuccG M lbl s f s' f' p' (postorderL forest) evs ∧
      code[pce]? = some ie ∧ (∀ s0 f0, stepLocal cfg inp ie s0 f0 = .sexit sw s0 f0) ∧
      Steps P cfg inp code pck s f pce s' f'
  | .fail => ∃ s'' f'', FailedG M lbl s f s'' f'' evs ∧ done ∈ jumps jc ∧
      ∀ pcko, labelPos code done = some pcko → Steps P cfg inp code pck s f pcko s'' f''

/-- Seen from a larger piece of code whose labels start earlier. -/
theorem CaseRuns.mono {code sw done lbl lbl1 jc jc1 pck s f res evs}
    (h : CaseRuns M P cfg inp code sw done lbl1 jc1 pck s f res evs) (hl : lbl ≤ lbl1)
    (hj : done ∈ jumps jc1 → done ∈ jumps jc) :
    CaseRuns M P cfg inp code sw done lbl jc pck s f res evs := by
  cases res with
  | ok p' forest =>
    obtain ⟨s', f', pce, ie, hS, hie, hex, hst⟩ := h
    exact ⟨s', f', pce, ie, hS.weaken hl, hie, hex, hst⟩
  | fail =>
    obtain ⟨s'', f'', hF, hj1, hst⟩ := h
    exact ⟨s'', f'', hF.weaken hl, hj hj1, hst⟩

/-- `slabel sw j; body; [brk sw;] sjmp sw`: the case label is found, and the body runs from it. -/
theorem caseRuns_one (hua : ua = true) {e : Expr} {p res evs} (ih : GoodG M ua P cfg env inp e p res evs)
    (sw j done : Nat) (pdk pmkk : Bool) (st : CSt) (rest : Code) (code : Code) (pc : Nat) (s : St) (f : Frame)
    (hc : CodeAt code pc (Instr.slabel sw j :: ((compile env e done pdk pmkk st).code ++
      ((if (compile env e done pdk pmkk st).labelLast then [Instr.brk sw] else []) ++
        Instr.sjmp sw :: rest))))
    (hp : PreG M ua env inp code s p) (hl : Lead inp p pdk pmkk e) :
    slabelPos code sw j = some pc ∧
      CaseRuns M P cfg inp code sw done st.label (compile env e done pdk pmkk st).code pc s f res evs := by
  refine ⟨slabelPos_of_suniq (hp.suniq hua) hc, ?_⟩
  obtain ⟨h0, hc1⟩ := hc.head
  have hstart : Steps P cfg inp code pc s f (pc + 1) s f := Steps.next h0 (by simp [stepLocal])
  have h' := ih done pdk pmkk st code (pc + 1) s f hc1.left hp hl
  cases res with
  | ok p' forest =>
    obtain ⟨s', f', hS, hst⟩ := h'
    -- after the body stands `brk sw` if the body ended in a label, else the `sjmp sw`: both leave the switch
    have hc2 := hc1.right
    split at hc2
    all_goals exact ⟨s', f', _, _, hS, hc2.head.1, fun _ _ => rfl, hstart.trans hst⟩
  | fail =>
    obtain ⟨s'', f'', hF, hj, hst⟩ := h'
    exact ⟨s'', f'', hF, hj, fun pcko hlk => hstart.trans (hst pcko hlk)⟩

/-! ### The case list -/

-- `compileCases` walks the key sets by `headD`/`tail`; `caseRuns_nth` below speaks of the `k`-th one.
theorem getD_zero_headD (ks : List KeySet) : ks.getD 0 [] = ks.headD [] := by cases ks <;> rfl

theorem getD_succ_tail (ks : List KeySet) (k : Nat) : ks.getD (k + 1) [] = ks.tail.getD k [] := by
  cases ks <;> simp

/-- The code of case `k` inside `compileCases`: its label is found, and from there the body behaves
    as the semantics of `es[k]` prescribes.  `hl` is the `Lead` fact for the flags `compileCases`
    passes to a case other than the default. -/
theorem caseRuns_nth (hua : ua = true) {e : Expr} {p res evs} (ih : GoodG M ua P cfg env inp e p res evs) :
    ∀ (es : List Expr) (ks : List KeySet) (k : Nat), es[k]? = some e →
    (k + 1 < es.length →
      Lead inp p true (decide ((ks.getD k []).card > 1)) e) →
    ∀ (sw i done : Nat) (st : CSt) (code : Code) (pc : Nat) (s : St) (f : Frame),
    CodeAt code pc (compileCases env ks es sw i done st).code → PreG M ua env inp code s p →
    ∃ pck, slabelPos code sw (i + k) = some pck ∧
      CaseRuns M P cfg inp code sw done st.label (compileCases env ks es sw i done st).code pck s f res evs
  | [], ks, k, hk, _ => by simp at hk
  | [e0], ks, k, hk, _ => by
    intro sw i done st code pc s f hc hp
    have hk0 : k = 0 := by
      cases k with
      | zero => rfl
      | succ k => simp at hk
    subst hk0
    simp only [List.getElem?_cons_zero, Option.some.injEq] at hk
    subst hk
    simp only [compileCases, List.append_assoc, List.cons_append, List.nil_append] at hc ⊢
    obtain ⟨hpos, h'⟩ := caseRuns_one hua ih sw i done false false st [] code pc s f hc hp
      (Lead_false _ _ _ _)
    exact ⟨pc, by simpa using hpos, h'.mono (Nat.le_refl _) fun hj => by jmp⟩
  | e0 :: e1 :: es, ks, k, hk, hl => by
    intro sw i done st code pc s f hc hp
    simp only [compileCases, List.append_assoc, List.cons_append, List.nil_append] at hc ⊢
    cases k with
    | zero =>
      simp only [List.getElem?_cons_zero, Option.some.injEq] at hk
      subst hk
      have hl' := hl (by simp)
      rw [getD_zero_headD] at hl'
      obtain ⟨hpos, h'⟩ := caseRuns_one hua ih sw i done _ _ st _ code pc s f hc hp hl'
      refine ⟨pc, by simpa using hpos, h'.mono (Nat.le_refl _) fun hj => ?_⟩
      simp only [jumps_cons, jumps_append, List.mem_append, hj, true_or, or_true]
    | succ k =>
      simp only [List.getElem?_cons_succ] at hk
      -- skip the first case
      obtain ⟨_, hc1⟩ := hc.head
      obtain ⟨_, hc2⟩ := hc1.right.right.head
      have hmono := compile_mono env e0 done true
        (decide ((ks.headD []).card > 1)) st
      obtain ⟨pck, hpos, h'⟩ := caseRuns_nth hua ih (e1 :: es) ks.tail k hk
        (fun hlt => by
          have := hl (by simp only [List.length_cons] at hlt ⊢; omega)
          rwa [getD_succ_tail] at this)
        sw (i + 1) done _ code _ s f hc2 hp
      refine ⟨pck, by rw [← hpos]; congr 1; omega, h'.mono hmono fun hj => ?_⟩
      simp only [jumps_cons, jumps_append, List.mem_append, hj, or_true]

/-! ### The switch -/

theorem goodG_ualt (hua : ua = true) {ks : List KeySet} {es : List Expr} {e : Expr} {p res evs}
    (hidx : es[caseIdx (ks.take (es.length - 1)) (peek inp p)]? = some e)
    (hcl : casesLeadOK ks es = true)
    (ih : GoodG M ua P cfg env inp e p res evs) :
    GoodG M ua P cfg env inp (.ualt ks es) p res evs := by
  intro ko pd pmk st code pc s f hc hp _
  norm_code at hc
  -- `{ switch buffer[position] { <cases> } } [ok:]`, flattened: `bb; switchOn sw keys; <cases>; send sw; be; [ok:]`
  obtain ⟨hbb, hc⟩ := hc.head
  obtain ⟨hswitch, hc⟩ := hc.head
  have hcases := hc.left
  have hcend := hc.right
  have hsend := sendPos_of_suniq (hp.suniq hua) hcend
  -- the case selected by the machine is the one the semantics evaluates
  generalize hkdef : caseIdx (ks.take (es.length - 1)) (peek inp p) = k at hidx
  have hklt : k < es.length := by
    rcases Nat.lt_or_ge k es.length with h | h
    · exact h
    · rw [List.getElem?_eq_none h] at hidx; cases hidx
  -- a case other than the default is selected only by one of its keys, and `casesLeadOK` checked
  -- the tests elided in its body against exactly these keys (`leadOK_sound`)
  have hlead : k + 1 < es.length →
      Lead inp p true (decide ((ks.getD k []).card > 1)) e := by
    intro hlt
    obtain ⟨K, hK, hok⟩ := casesLeadOK_get hcl hidx hlt
    have hlen := casesLeadOK_length hcl
    have hkk : caseIdx (ks.take (es.length - 1)) (peek inp p) < (ks.take (es.length - 1)).length := by
      rw [hkdef]; simp only [List.length_take]; omega
    obtain ⟨K', hK', hhas⟩ := caseIdx_lt hkk
    -- `(ks.take (es.length - 1))[k]?`, `ks[k]?` and `ks.getD k []` are the same key set
    rw [hkdef, List.getElem?_take_of_lt (by omega), hK] at hK'
    obtain rfl := Option.some.inj hK'
    rw [List.getD_eq_getElem?_getD, hK]
    exact leadOK_sound hhas e hok
  obtain ⟨pck, hpos, h'⟩ := caseRuns_nth hua ih es ks k hidx hlead st.sw 0 ko
    { label := st.label + 1, sw := st.sw + 1 } code (pc + 1 + 1) s f hcases hp
  have hbuf : (bufOf inp)[s.pos]? = some (peek inp p) := by rw [hp.pos]; exact buf_peek hp.ple
  have hstart : Steps P cfg inp code pc s f pck s f :=
    (Steps.next (s' := s) (f' := f) hbb (by simp [stepLocal])).trans
      (Steps.sjump (sw := st.sw) (k := k) (s' := s) (f' := f) hswitch
        (by simp only [stepLocal, hbuf, caseIndex_eq_caseIdx, hkdef]) (by simpa using hpos))
  cases res with
  | ok p' forest =>
    obtain ⟨s', f', pce, ie, hS, hie, hex, hst⟩ := h'
    refine ⟨s', f', hS.weaken (Nat.le_succ _), ?_⟩
    have hrun : runs cfg inp (Instr.send st.sw :: Instr.be :: env.lbl st.label) s' f' = some (s', f') := by
      simp [runs, stepLocal, runs_lbl]
    exact (hstart.trans <| hst.trans <| (Steps.sexit hie (hex s' f') hsend).trans (hcend.runs hrun)).cast
      (by simp [List.length_append]; omega)
  | fail =>
    obtain ⟨s'', f'', hF, hj, hst⟩ := h'
    refine ⟨s'', f'', hF.weaken (Nat.le_succ _), ?_, fun pcko hlk => hstart.trans (hst pcko hlk)⟩
    simp only [jumps_cons, jumps_append]
    simp [hj]

end PegVerif
