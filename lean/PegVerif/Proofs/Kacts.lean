import PegVerif.Model.KactsDef
import PegVerif.Proofs.FastCheck
/-
  The kit `Kacts G` (`Model/KactsDef.lean`) loses nothing: the four `-noast` side conditions at
  `Kacts` accept every grammar their `Kall` instances accept.
-/
namespace PegVerif
open Noast

/-- The two fields of `Kacts G`, for `simp`; only the second has a user. -/
@[simp] theorem Kacts_codeOf (G : Grammar) : (Kacts G).codeOf = actionCodeOf G := rfl

@[simp] theorem Kacts_keep (G : Grammar) (c : String) : (Kacts G).keep c = (actionCodes G).contains c := rfl

theorem Kacts_keep_of_codeOf {G : Grammar} {r c : String} (h : actionCodeOf G r = some c) :
    (Kacts G).keep c = true := by
  rw [Kacts_keep, List.contains_iff_mem, actionCodes, List.mem_filterMap]
  unfold actionCodeOf at h
  split at h
  · next hb =>
    obtain ⟨rr, hm, _, hbody⟩ := Grammar.body_mem hb
    exact ⟨rr, hm, by rw [hbody]; exact h⟩
  · cases h

/-- `Kall` admits no statement, and the one place where `keep` is asked for is the code of an action
    rule. -/
theorem okNB_Kall_Kacts_all (G : Grammar) :
    (∀ e : Expr, e.okNB (Kall G) = true → e.okNB (Kacts G) = true) ∧
    (∀ es : List Expr, okNLB (Kall G) es = true → okNLB (Kacts G) es = true) := by
  apply Expr.okNB.mutual_induct
  -- the clause `ipush e r`: name, the condition on the code of `r` (by cases on `e`), operand
  case case12 =>
    intro e r ih h
    simp only [Expr.okNB, Bool.and_eq_true] at h ⊢
    obtain ⟨⟨hname, hcode⟩, he⟩ := h
    refine ⟨⟨hname, ?_⟩, ih he⟩
    cases e
    case act c =>
      simp only [Bool.and_eq_true, beq_iff_eq] at hcode ⊢
      exact ⟨hcode.1, Kacts_keep_of_codeOf hcode.1⟩
    all_goals exact hcode
  all_goals intros
  all_goals simp_all only [Expr.okNB, okNLB, Kall, Bool.and_eq_true, Bool.not_true, Bool.false_eq_true,
    and_self]

theorem okNB_Kall_Kacts (G : Grammar) : ∀ e : Expr, e.okNB (Kall G) = true → e.okNB (Kacts G) = true :=
  (okNB_Kall_Kacts_all G).1

theorem okNLB_Kall_Kacts (G : Grammar) : ∀ es : List Expr, okNLB (Kall G) es = true → okNLB (Kacts G) es = true :=
  (okNB_Kall_Kacts_all G).2

theorem GrammarOKN_Kall_Kacts {G H : Grammar} (h : GrammarOKN (Kall G) H = true) :
    GrammarOKN (Kacts G) H = true := by
  simp only [GrammarOKN, List.all_eq_true] at h ⊢
  exact fun r hr => okNB_Kall_Kacts G _ (h r hr)

theorem GrammarOKNIS_Kall_Kacts {G H : Grammar} (h : GrammarOKNIS (Kall G) H = true) :
    GrammarOKNIS (Kacts G) H = true :=
  Grammar.all_find_imp (fun r h => by
    simp only [Bool.or_eq_true, Bool.and_eq_true] at h ⊢
    exact h.imp_right (fun h => ⟨h.1, okNB_Kall_Kacts G _ h.2⟩)) h

theorem noastSafeA_of_Kall {G : Grammar} (h : GrammarOKN (Kall G) G = true) : noastSafeA G = true :=
  GrammarOKN_Kall_Kacts h

theorem inlineNoastSafeA_of_Kall {G : Grammar} (h : inlineNoastSafe G = true) :
    inlineNoastSafeA G = true := by
  simp only [inlineNoastSafe, inlineNoastSafeA, inlineNoastSafeK, Bool.and_eq_true] at h ⊢
  exact ⟨GrammarOKNIS_Kall_Kacts h.1, h.2⟩

theorem noastSwitchSafeA_of_Kall {G G' : Grammar} (h : noastSwitchSafe G G' = true) :
    noastSwitchSafeA G G' = true := by
  simp only [noastSwitchSafe, noastSwitchSafeA, noastSwitchSafeKfast_eq, noastSwitchSafeK, GrammarOKNS,
    Bool.and_eq_true] at h ⊢
  obtain ⟨⟨hsw, hS, hN⟩, hplain⟩ := h
  exact ⟨⟨hsw, hS, GrammarOKN_Kall_Kacts hN⟩, hplain⟩

theorem inlineNoastSwitchSafeA_of_Kall {G G' : Grammar} (h : inlineNoastSwitchSafe G G' = true) :
    inlineNoastSwitchSafeA G G' = true := by
  simp only [inlineNoastSwitchSafe, inlineNoastSwitchSafeA, inlineNoastSwitchSafeK, inlineNoastSafeK,
    Bool.and_eq_true] at h ⊢
  obtain ⟨hsw, hNIS, hplain⟩ := h
  exact ⟨hsw, GrammarOKNIS_Kall_Kacts hNIS, hplain⟩

/-- That the kit is not vacuous: a statement whose code is that of an action rule is still rejected
    (the two trace entries could not be told apart).  Nothing else uses it. -/
theorem okNB_Kacts_stmt_action {G : Grammar} {r c : String} (h : actionCodeOf G r = some c) :
    (Expr.stmt c).okNB (Kacts G) = false := by
  simp only [Expr.okNB, Kacts_keep_of_codeOf h, Bool.not_true]

end PegVerif

#print axioms PegVerif.Kacts_keep_of_codeOf
#print axioms PegVerif.okNB_Kall_Kacts
#print axioms PegVerif.noastSafeA_of_Kall
#print axioms PegVerif.inlineNoastSafeA_of_Kall
#print axioms PegVerif.noastSwitchSafeA_of_Kall
#print axioms PegVerif.inlineNoastSwitchSafeA_of_Kall
#print axioms PegVerif.okNB_Kacts_stmt_action
