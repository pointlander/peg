import PegVerif.Proofs.SemLemmas
import PegVerif.Model.WellFormed
/-
  Ford's totality theorem (POPL 2004, §3.6): in a grammar that passes the decidable check `WFB`
  (`Model/WellFormed.lean`) every expression has an outcome at every position of every input.  The
  refinement theorems are relative to the existence of an `Eval` derivation; this supplies it.
-/
namespace PegVerif

/-! ### Expressions of a well-formed grammar -/

/-- `e` and all its sub-expressions are in Ford's WF. -/
def WFE (G : Grammar) (e : Expr) : Prop :=
  wfF G (nullSet G) (wfFuel G) e = true ∧ subsB G (nullSet G) (wfFuel G) e = true

instance (G : Grammar) (e : Expr) : Decidable (WFE G e) := by unfold WFE; infer_instance

/-- Every proper sub-expression is in Ford's WF (what is inherited down a derivation; the expression
    itself may be a tail of a sequence or choice). -/
def WFS (G' : Grammar) (e : Expr) : Prop := subsB G' (nullSet G') (wfFuel G') e = true

/-- `Child c e`: `c` is an immediate sub-expression of `e` — an operand or a member of the list, not
    a tail of it. -/
inductive Child : Expr → Expr → Prop where
  | inl {n e} : Child e (.inl n e)
  | seq {e es} : e ∈ es → Child e (.seq es)
  | alt {e es} : e ∈ es → Child e (.alt es)
  | ualt {e ks es} : e ∈ es → Child e (.ualt ks es)
  | peekFor {e} : Child e (.peekFor e)
  | peekNot {e} : Child e (.peekNot e)
  | query {e} : Child e (.query e)
  | star {e} : Child e (.star e)
  | plus {e} : Child e (.plus e)
  | push {e r} : Child e (.push e r)
  | ipush {e r} : Child e (.ipush e r)

/-- `e` occurs in a rule body of `G` (as the body of the first rule of some name, or below it). -/
inductive InGrammar (G : Grammar) : Expr → Prop where
  | body {n b} : G.body n = some b → InGrammar G b
  | child {e e'} : InGrammar G e → Child e' e → InGrammar G e'

/-! ### Basic lemmas -/

theorem closed_body {G : Grammar} {N n b} (hcl : closedB G N = true) (h : G.body n = some b)
    (hn : N.contains n = false) : nullE N b = false := by
  obtain ⟨r, hr, rfl, rfl⟩ := Grammar.body_mem h
  simpa only [hn, Bool.or_false, Bool.not_eq_true'] using List.all_eq_true.mp hcl r hr

theorem subsL_iff {G N F} {es : List Expr} :
    subsL G N F es = true ↔ ∀ e ∈ es, wfF G N F e = true ∧ subsB G N F e = true := by
  induction es with
  | nil => simp [subsL]
  | cons a as ih => simp [subsL, ih, and_assoc]

theorem WFE.wf {G : Grammar} {e : Expr} (h : WFE G e) : wfF G (nullSet G) (wfFuel G) e = true := h.1

theorem WFE.toWFS {G : Grammar} {e : Expr} (h : WFE G e) : WFS G e := h.2

theorem WFS.child {G : Grammar} {e c : Expr} (hs : WFS G e) (hc : Child c e) : WFE G c := by
  cases hc with
  | seq hm | alt hm | ualt hm => exact subsL_iff.mp hs _ hm
  | _ => simpa [WFS, WFE, subsB] using hs

theorem WFS.sub {G : Grammar} {e c : Expr} (hs : WFS G e) (hc : Child c e) : WFS G c :=
  (hs.child hc).toWFS

theorem WFS_alt {G : Grammar} {es} : WFS G (.alt es) ↔ ∀ e ∈ es, WFE G e := subsL_iff
theorem WFS_star {G : Grammar} {e} : WFS G (.star e) ↔ WFE G e := by simp [WFS, WFE, subsB]

theorem WFS.seq_tail {G : Grammar} {e es} (h : WFS G (.seq (e :: es))) : WFS G (.seq es) := by
  simp only [WFS, subsB, subsL, Bool.and_eq_true] at h ⊢
  exact h.2

theorem WFS.alt_tail {G : Grammar} {e es} (h : WFS G (.alt (e :: es))) : WFS G (.alt es) := by
  simp only [WFS, subsB, subsL, Bool.and_eq_true] at h ⊢
  exact h.2

theorem WFB_closed {G : Grammar} (hwf : WFB G = true) : closedB G (nullSet G) = true := by
  simp only [WFB, Bool.and_eq_true] at hwf; exact hwf.1

theorem WFB_body {G : Grammar} (hwf : WFB G = true) {n b} (h : G.body n = some b) : WFE G b := by
  simp only [WFB, Bool.and_eq_true] at hwf
  simpa [WFE] using Grammar.body_all (P := fun b => wfF G _ _ b && subsB G _ _ b) hwf.2 h

theorem nullAny_false {N} {es : List Expr} (h : nullAny N es = false) :
    ∀ e ∈ es, nullE N e = false := by
  induction es with
  | nil => intro e he; cases he
  | cons a as ih =>
    simp only [nullAny, Bool.or_eq_false_iff] at h
    intro e he
    rcases List.mem_cons.mp he with rfl | he
    · exact h.1
    · exact ih h.2 e he

/-! ### A non-nullable expression that succeeds consumes input -/

/-- `≤` is `Eval_pos`; only the strict part needs the closedness of `N`. -/
theorem Eval_consumes {G : Grammar} {ρ : String → Nat → Bool} {inp N} (hcl : closedB G N = true)
    {e p p' f evs} (h : Eval G ρ inp e p (.ok p' f) evs) (hn : nullE N e = false) : p < p' := by
  generalize hr : Res.ok p' f = res at h
  induction h generalizing p' f with
  | dot_ok | chr_ok | rng_ok => cases hr; omega
  | @str_ok _ s _ =>
    cases hr
    cases s with
    | nil => simp [nullE] at hn
    | cons a as => simp
  | name hb _ ih => exact ih (closed_body hcl hb (by simpa [nullE] using hn)) hr
  | inl _ ih => exact ih (by simpa [nullE] using hn) hr
  | seq_ok h1 h2 ih1 ih2 =>
    cases hr
    have := (Eval_pos h1).1
    have := (Eval_pos h2).1
    simp only [nullE, nullAll, Bool.and_eq_false_iff] at hn
    rcases hn with hn | hn
    · have := ih1 hn rfl; omega
    · have := ih2 (by simpa [nullE] using hn) rfl; omega
  | alt_last _ ih => exact ih (by simpa [nullE, nullAny] using hn) hr
  | alt_ok _ ih =>
    simp only [nullE, nullAny, Bool.or_eq_false_iff] at hn
    exact ih hn.1 hr
  | alt_next _ _ _ ih2 =>
    simp only [nullE, nullAny, Bool.or_eq_false_iff] at hn
    exact ih2 (by simpa [nullE, nullAny] using hn.2) hr
  | ualt hidx _ ih =>
    exact ih (nullAny_false (by simpa [nullE] using hn) _ (List.mem_of_getElem? hidx)) hr
  | plus_ok h1 h2 ih1 _ =>
    cases hr
    have := (Eval_pos h2).1
    have := ih1 (by simpa [nullE] using hn) rfl
    omega
  | push_ok _ _ ih | ipush_ok _ _ ih => cases hr; exact ih (by simpa [nullE] using hn) rfl
  | pred_ok | stmt | act | nil | seq_nil | peekFor_ok | peekNot_ok | query_ok | query_none
  | star_stop | star_step | push_act | ipush_act =>
    simp [nullE, nullAll] at hn
  | _ => cases hr

/-! ### Totality -/

/-- `e` has an outcome at `p`: what the totality theorem asserts, one expression and position at a
    time, so that the induction can speak of later positions and smaller heights.  The
    `∃ res evs, Eval …` of the theorems at the end is this, unfolded. -/
def Tot (G : Grammar) (ρ : String → Nat → Bool) (inp : List Sym) (e : Expr) (p : Nat) : Prop :=
  ∃ res, HasOutcome G ρ inp e p res

/-- An expression whose outcome is decided by that of `e` has one if `e` has. -/
theorem Tot.by_cases {G : Grammar} {ρ : String → Nat → Bool} {inp} {e e' : Expr} {p p' : Nat}
    (he : Tot G ρ inp e p)
    (ok : ∀ {p1 f1 evs}, Eval G ρ inp e p (.ok p1 f1) evs → Tot G ρ inp e' p')
    (fail : ∀ {evs}, Eval G ρ inp e p .fail evs → Tot G ρ inp e' p') : Tot G ρ inp e' p' := by
  obtain ⟨res, evs, he⟩ := he
  cases res with
  | ok p1 f1 => exact ok he
  | fail => exact fail he

theorem Tot.seq_cons {G : Grammar} {ρ : String → Nat → Bool} {inp} {e : Expr} {es : List Expr} {p : Nat}
    (he : Tot G ρ inp e p)
    (hes : ∀ {p1 f1 evs}, Eval G ρ inp e p (.ok p1 f1) evs → Tot G ρ inp (.seq es) p1) :
    Tot G ρ inp (.seq (e :: es)) p :=
  he.by_cases
    (fun he => (hes he).by_cases (fun h2 => ⟨_, _, .seq_ok he h2⟩) fun h2 => ⟨_, _, .seq_ok_fail he h2⟩)
    fun he => ⟨_, _, .seq_fail he⟩

theorem seq_total {G : Grammar} {ρ : String → Nat → Bool} {inp} {es : List Expr} {p0 : Nat}
    (h : ∀ e ∈ es, ∀ p, p0 ≤ p → p ≤ inp.length → Tot G ρ inp e p) :
    ∀ p, p0 ≤ p → p ≤ inp.length → Tot G ρ inp (.seq es) p := by
  induction es with
  | nil => intro p _ _; exact ⟨_, _, .seq_nil⟩
  | cons e es ih =>
    intro p hp hl
    refine .seq_cons (h e (by simp) p hp hl) fun he => ?_
    have hb := Eval_bound he hl
    exact ih (fun e' he' => h e' (by simp [he'])) _ (by omega) hb.2

/-- After a first round the greedy loop terminates: every round of a non-nullable body consumes, so
    the remaining input shrinks. -/
theorem star_after {G : Grammar} {ρ : String → Nat → Bool} {inp N} (hcl : closedB G N = true)
    {e : Expr} (hne : nullE N e = false) :
    ∀ k {p p1 f1 evs}, inp.length - p1 = k → Eval G ρ inp e p (.ok p1 f1) evs →
      (∀ p', p < p' → p' ≤ inp.length → Tot G ρ inp e p') →
      ∃ p2 f evs, Eval G ρ inp (.star e) p1 (.ok p2 f) evs := by
  intro k
  induction k using Nat.strongRecOn with
  | _ k ih =>
    intro p p1 f1 evs hk he h
    have hc := Eval_consumes hcl he hne
    obtain ⟨res, evs1, he1⟩ := h p1 hc ((Eval_pos he).2 hc)
    cases res with
    | fail => exact ⟨_, _, _, .star_stop he1⟩
    | ok p2 f2 =>
      have hc1 := Eval_consumes hcl he1 hne
      have hb1 := (Eval_pos he1).2 hc1
      obtain ⟨p3, f3, evs3, h3⟩ :=
        ih (inp.length - p2) (by omega) rfl he1 (fun p' hp' => h p' (by omega))
      exact ⟨_, _, _, .star_step he1 h3⟩

/-- Ford's induction: outer on the remaining input, inner on the height of the WF derivation
    (which bounds both the chain of first-position references and the structure). -/
theorem total_aux {G : Grammar} {ρ : String → Nat → Bool} {inp} (hwf : WFB G = true) :
    ∀ k f e, wfF G (nullSet G) f e = true → WFS G e → ∀ p, inp.length - p = k → Tot G ρ inp e p := by
  have hcl := WFB_closed hwf
  intro k
  induction k using Nat.strongRecOn with
  | _ k IHk =>
    intro f
    induction f with
    | zero => intro e h; simp [wfF] at h
    | succ f IHf =>
      intro e hw hs p hk
      have later : ∀ e', WFE G e' → ∀ p', p < p' → p' ≤ inp.length → Tot G ρ inp e' p' :=
        fun e' h p' hp hl' => IHk (inp.length - p') (by omega) (wfFuel G) e' h.wf h.toWFS p' rfl
      cases e with
      | dot =>
        cases hc : inp[p]? with
        | none => exact ⟨_, _, .dot_fail hc⟩
        | some c => exact ⟨_, _, .dot_ok hc⟩
      | chr c =>
        by_cases hc : inp[p]? = some c
        · exact ⟨_, _, .chr_ok hc⟩
        · exact ⟨_, _, .chr_fail hc⟩
      | rng lo hi =>
        cases hc : inp[p]? with
        | none => exact ⟨_, _, .rng_fail (fun c h1 => by rw [hc] at h1; cases h1)⟩
        | some c =>
          rcases Nat.lt_or_ge c lo with h2 | h2
          · exact ⟨_, _, .rng_fail (fun c' h1 => by rw [hc] at h1; cases h1; exact Or.inl h2)⟩
          · rcases Nat.lt_or_ge hi c with h3 | h3
            · exact ⟨_, _, .rng_fail (fun c' h1 => by rw [hc] at h1; cases h1; exact Or.inr h3)⟩
            · exact ⟨_, _, .rng_ok hc h2 h3⟩
      | str s =>
        cases hc : matchesAt inp s p with
        | true => exact ⟨_, _, .str_ok hc⟩
        | false => exact ⟨_, _, .str_fail hc⟩
      | name n =>
        simp only [wfF] at hw
        cases hb : G.body n with
        | none => simp [hb] at hw
        | some b =>
          simp only [hb] at hw
          obtain ⟨res, evs, he⟩ := IHf b hw (WFB_body hwf hb).toWFS p hk
          exact ⟨_, _, .name hb he⟩
      | inl n e =>
        simp only [wfF] at hw
        obtain ⟨res, evs, he⟩ := IHf e hw (hs.sub .inl) p hk
        exact ⟨_, _, .inl he⟩
      | pred c =>
        cases hc : ρ c p with
        | true => exact ⟨_, _, .pred_ok hc⟩
        | false => exact ⟨_, _, .pred_fail hc⟩
      | stmt c => exact ⟨_, _, .stmt⟩
      | act c => exact ⟨_, _, .act⟩
      | nil => exact ⟨_, _, .nil⟩
      | seq es =>
        cases es with
        | nil => exact ⟨_, _, .seq_nil⟩
        | cons e es =>
          simp only [wfF, Bool.and_eq_true, Bool.or_eq_true, Bool.not_eq_true'] at hw
          have hs2 := hs.seq_tail
          refine .seq_cons (IHf e hw.1 (hs.sub (.seq List.mem_cons_self)) p hk)
            fun {p1 f1 evs} he => ?_
          have hb := Eval_pos he
          -- the tail is in first position if the head consumed nothing, and at a later position otherwise
          by_cases hpp : p1 = p
          · subst hpp
            rcases hw.2 with hn | hw2
            · have := Eval_consumes hcl he hn; omega
            · exact IHf (.seq es) hw2 hs2 p1 hk
          · exact seq_total (p0 := p + 1)
              (fun e' he' p' hp' hl' => later e' (hs2.child (.seq he')) p' (by omega) hl')
              p1 (by omega) (hb.2 (by omega))
      | alt es =>
        cases es with
        | nil => simp [wfF] at hw
        | cons e es =>
          cases es with
          | nil =>
            simp only [wfF] at hw
            obtain ⟨res, evs, he⟩ := IHf e hw (hs.sub (.alt List.mem_cons_self)) p hk
            exact ⟨_, _, .alt_last he⟩
          | cons e' es =>
            simp only [wfF, Bool.and_eq_true] at hw
            refine (IHf e hw.1 (hs.sub (.alt List.mem_cons_self)) p hk).by_cases
              (fun he => ⟨_, _, .alt_ok he⟩) fun he => ?_
            obtain ⟨res2, evs2, h2⟩ := IHf (.alt (e' :: es)) hw.2 hs.alt_tail p hk
            exact ⟨_, _, .alt_next he h2⟩
      | ualt ks es =>
        simp only [wfF, Bool.and_eq_true, Bool.not_eq_true', List.isEmpty_eq_false_iff,
          List.all_eq_true] at hw
        have hlt := ualt_case_lt ks hw.1 (peek inp p)
        have hm := List.getElem_mem hlt
        obtain ⟨res, evs, he⟩ := IHf _ (hw.2 _ hm) (hs.sub (.ualt hm)) p hk
        exact ⟨_, _, .ualt (List.getElem?_eq_getElem hlt) he⟩
      | peekFor e =>
        simp only [wfF] at hw
        exact (IHf e hw (hs.sub .peekFor) p hk).by_cases
          (fun he => ⟨_, _, .peekFor_ok he⟩) fun he => ⟨_, _, .peekFor_fail he⟩
      | peekNot e =>
        simp only [wfF] at hw
        exact (IHf e hw (hs.sub .peekNot) p hk).by_cases
          (fun he => ⟨_, _, .peekNot_fail he⟩) fun he => ⟨_, _, .peekNot_ok he⟩
      | query e =>
        simp only [wfF] at hw
        exact (IHf e hw (hs.sub .query) p hk).by_cases
          (fun he => ⟨_, _, .query_ok he⟩) fun he => ⟨_, _, .query_none he⟩
      | star e =>
        simp only [wfF, Bool.and_eq_true, Bool.not_eq_true'] at hw
        have hs := hs.child .star
        refine (IHf e hw.2 hs.toWFS p hk).by_cases (fun he => ?_) fun he => ⟨_, _, .star_stop he⟩
        obtain ⟨p2, f2, evs2, h2⟩ := star_after hcl hw.1 _ rfl he (later e hs)
        exact ⟨_, _, .star_step he h2⟩
      | plus e =>
        simp only [wfF, Bool.and_eq_true, Bool.not_eq_true'] at hw
        have hs := hs.child .plus
        refine (IHf e hw.2 hs.toWFS p hk).by_cases (fun he => ?_) fun he => ⟨_, _, .plus_fail he⟩
        obtain ⟨p2, f2, evs2, h2⟩ := star_after hcl hw.1 _ rfl he (later e hs)
        exact ⟨_, _, .plus_ok he h2⟩
      | push e r =>
        simp only [wfF] at hw
        rcases isAct_cases e with ⟨c, rfl⟩ | hna
        · exact ⟨_, _, .push_act⟩
        · exact (IHf e hw (hs.sub .push) p hk).by_cases
            (fun he => ⟨_, _, .push_ok hna he⟩) fun he => ⟨_, _, .push_fail hna he⟩
      | ipush e r =>
        simp only [wfF] at hw
        rcases isAct_cases e with ⟨c, rfl⟩ | hna
        · exact ⟨_, _, .ipush_act⟩
        · exact (IHf e hw (hs.sub .ipush) p hk).by_cases
            (fun he => ⟨_, _, .ipush_ok hna he⟩) fun he => ⟨_, _, .ipush_fail hna he⟩

/-! ### The theorems -/

theorem WFE_inGrammar {G : Grammar} (hwf : WFB G = true) {e : Expr} (h : InGrammar G e) :
    WFE G e := by
  induction h with
  | body hb => exact WFB_body hwf hb
  | child _ hc ih => exact ih.toWFS.child hc

/-- Also beyond the end of the input, where every terminal fails. -/
theorem Eval_total_expr' {G : Grammar} {ρ : String → Nat → Bool} (hwf : WFB G = true)
    {e : Expr} (he : WFE G e) : ∀ (inp : List Sym) (p : Nat), Tot G ρ inp e p :=
  fun inp p =>
    total_aux hwf (inp.length - p) (wfFuel G) e he.wf he.toWFS p rfl

theorem Eval_total_inGrammar {G : Grammar} {ρ : String → Nat → Bool} (hwf : WFB G = true)
    {e : Expr} (he : InGrammar G e) :
    ∀ (inp : List Sym) (p : Nat), p ≤ inp.length → ∃ res evs, Eval G ρ inp e p res evs :=
  fun inp p _ => Eval_total_expr' hwf (WFE_inGrammar hwf he) inp p

theorem Eval_total' {G : Grammar} {ρ : String → Nat → Bool} (hwf : WFB G = true) :
    ∀ (inp : List Sym) (n : String) (b : Expr), G.body n = some b →
      ∀ p, ∃ res evs, Eval G ρ inp (.name n) p res evs := by
  intro inp n b hb p
  obtain ⟨res, evs, he⟩ := Eval_total_expr' (ρ := ρ) hwf (WFB_body hwf hb) inp p
  exact ⟨res, evs, .name hb he⟩

theorem Eval_total {G : Grammar} {ρ : String → Nat → Bool} (hwf : WFB G = true) :
    ∀ (inp : List Sym) (n : String) (b : Expr), G.body n = some b →
      ∀ p, p ≤ inp.length → ∃ res evs, Eval G ρ inp (.name n) p res evs :=
  fun inp n b hb p _ => Eval_total' hwf inp n b hb p

theorem Eval_total_unique {G : Grammar} {ρ : String → Nat → Bool} (hwf : WFB G = true)
    {inp : List Sym} {n : String} {b : Expr} (hb : G.body n = some b) {p : Nat}
    (hl : p ≤ inp.length) :
    ∃ res evs, Eval G ρ inp (.name n) p res evs ∧
      ∀ res' evs', Eval G ρ inp (.name n) p res' evs' → res' = res ∧ evs' = evs := by
  obtain ⟨res, evs, he⟩ := Eval_total (ρ := ρ) hwf inp n b hb p hl
  exact ⟨res, evs, he, fun _ _ h' => Eval_det h' he⟩

/-! ### The check is executable -/

/-- The example grammar of `Props/C01.lean`. -/
def totG : Grammar := { rules := [
  { name := "S", id := 0, body := .ipush (.seq [.star (.alt [.name "A", .chr 98]), .peekNot .dot]) "S" },
  { name := "A", id := 1, body := .ipush (.push (.chr 97) "PegText") "A" }] }

example : WFB totG = true := by decide

/-- Directly left-recursive: `E <- E '+' 'n' / 'n'`. -/
def lrG : Grammar := { rules := [
  { name := "E", id := 0, body := .alt [.seq [.name "E", .chr 43, .chr 110], .chr 110] }] }

example : WFB lrG = false := by decide

/-- Left-recursive through a nullable prefix: `A <- B? A 'a' / 'a'`, `B <- 'b'`. -/
def lrG2 : Grammar := { rules := [
  { name := "A", id := 0, body := .alt [.seq [.query (.name "B"), .name "A", .chr 97], .chr 97] },
  { name := "B", id := 1, body := .chr 98 }] }

example : WFB lrG2 = false := by decide

/-- A loop over a nullable body: `S <- (A?)*`. -/
def loopG : Grammar := { rules := [
  { name := "S", id := 0, body := .star (.query (.name "A")) },
  { name := "A", id := 1, body := .chr 97 }] }

example : WFB loopG = false := by decide

/-- An undefined reference. -/
example : WFB { rules := [{ name := "S", id := 0, body := .name "T" }] } = false := by decide

/-- Right recursion and nullable rules are fine: `S <- 'a' S / T`, `T <- 'b'?`. -/
def rrG : Grammar := { rules := [
  { name := "S", id := 0, body := .alt [.seq [.chr 97, .name "S"], .name "T"] },
  { name := "T", id := 1, body := .query (.chr 98) }] }

example : WFB rrG = true := by decide
example : nullSet rrG = ["S", "T"] := by decide

/-- A `-switch` node: `S <- switch { 'a': 'a' 'x'; default: 'b' } !.`; the empty one is rejected. -/
def swG : Grammar := { rules := [
  { name := "S", id := 0,
    body := .seq [.ualt [[(97, 97)], []] [.seq [.chr 97, .chr 120], .chr 98], .peekNot .dot] }] }

example : WFB swG = true := by decide
example : WFB { rules := [{ name := "S", id := 0, body := .ualt [] [] }] } = false := by decide
/-- … and a left recursion through a case is still found. -/
example : WFB { rules := [{ name := "S", id := 0, body := .ualt [[(97, 97)], []] [.chr 97, .name "S"] }] }
    = false := by decide

example : ∀ inp p, p ≤ inp.length → ∃ res evs, Eval totG (fun _ _ => true) inp (.name "S") p res evs :=
  fun inp p => Eval_total (by decide) inp "S" _ rfl p

end PegVerif

#print axioms PegVerif.Eval_total
#print axioms PegVerif.Eval_total_expr'
#print axioms PegVerif.Eval_total_inGrammar
#print axioms PegVerif.Eval_consumes
