import PegVerif.Model.Sched
/-
  The interleaving model of Model/Sched.lean: steps of threads with Bernstein-disjoint footprints
  commute (`stepT_comm`), so a schedule may be permuted (`run_perm`); a product of confined
  components is, part by part, a solo run (`prun_eq_iter`).
-/
namespace PegVerif.Sched

variable {V : Type}

theorem stepT_frame {t : Thread V} {W : List Loc} (h : WritesOnly t W) (σ : State V) {l : Loc}
    (hl : l ∉ W) : t.stepT σ l = σ l := by
  unfold Thread.stepT
  cases hs : t.step σ with
  | none => rfl
  | some σ' => exact h σ σ' hs l hl

theorem stepT_of_done {t : Thread V} {σ : State V} (h : t.Done σ) : t.stepT σ = σ := by
  unfold Thread.Done at h
  simp [Thread.stepT, h]

theorem AgreeOn.symm {L : List Loc} {σ τ : State V} (h : AgreeOn L σ τ) : AgreeOn L τ σ :=
  fun l hl => (h l hl).symm

theorem AgreeOn.trans {L : List Loc} {σ τ υ : State V} (h : AgreeOn L σ τ) (h' : AgreeOn L τ υ) :
    AgreeOn L σ υ := fun l hl => (h l hl).trans (h' l hl)

theorem stepT_agree_of_disj {t : Thread V} {W L : List Loc} (h : WritesOnly t W) (hd : Disj W L)
    (σ : State V) : AgreeOn L (t.stepT σ) σ := by
  intro l hl
  apply stepT_frame h
  intro hw
  exact hd l hw hl

theorem stepT_agree {t : Thread V} {R W : List Loc} (h : Respects t R W) {σ τ : State V}
    (hA : AgreeOn (R ++ W) σ τ) : AgreeOn W (t.stepT σ) (t.stepT τ) := by
  have hr := h.reads σ τ hA
  unfold Thread.stepT
  cases hs : t.step σ <;> cases ht : t.step τ <;> simp only [hs, ht] at hr
  · intro l hl
    exact hA l (List.mem_append_right _ hl)
  · exact hr

theorem done_of_agree {t : Thread V} {R W : List Loc} (h : Respects t R W) {σ τ : State V}
    (hA : AgreeOn (R ++ W) σ τ) (hd : t.Done σ) : t.Done τ := by
  have hr := h.reads σ τ hA
  unfold Thread.Done at hd ⊢
  cases ht : t.step τ with
  | none => rfl
  | some τ' => simp only [hd, ht] at hr

/-- Contrapositive of `WritesOnly`. -/
theorem mem_of_writesAt {t : Thread V} {W : List Loc} (h : WritesOnly t W) {σ : State V} {l : Loc}
    (hw : WritesAt t σ l) : l ∈ W := by
  obtain ⟨σ', hs, hch⟩ := hw
  exact Decidable.byContradiction fun hl => hch (h σ σ' hs l hl)

theorem ignores_of_not_mem {t : Thread V} {R W : List Loc} (h : ReadsOnly t R W) {l : Loc}
    (hl : l ∉ R ++ W) : Ignores t W l :=
  fun σ τ hag => h σ τ fun l' hl' => hag l' fun heq => hl (heq ▸ hl')

/-- Bernstein: on `W₁` only `t₁` acts, and it sees the same `R₁ ∪ W₁` before and after `t₂`;
    symmetrically on `W₂`; elsewhere nobody acts. -/
theorem stepT_comm {t₁ t₂ : Thread V} {R₁ W₁ R₂ W₂ : List Loc}
    (h₁ : Respects t₁ R₁ W₁) (h₂ : Respects t₂ R₂ W₂)
    (d₁ : Disj W₁ (R₂ ++ W₂)) (d₂ : Disj W₂ (R₁ ++ W₁)) (σ : State V) :
    t₁.stepT (t₂.stepT σ) = t₂.stepT (t₁.stepT σ) := by
  have A1 : AgreeOn (R₁ ++ W₁) (t₂.stepT σ) σ := stepT_agree_of_disj h₂.writes d₂ σ
  have A2 : AgreeOn (R₂ ++ W₂) (t₁.stepT σ) σ := stepT_agree_of_disj h₁.writes d₁ σ
  funext l
  by_cases hl1 : l ∈ W₁
  · have hl2 : l ∉ W₂ := fun hw => d₁ l hl1 (List.mem_append_right _ hw)
    rw [stepT_agree h₁ A1 l hl1, stepT_frame h₂.writes _ hl2]
  · by_cases hl2 : l ∈ W₂
    · rw [stepT_frame h₁.writes _ hl1, stepT_agree h₂ A2 l hl2]
    · rw [stepT_frame h₁.writes _ hl1, stepT_frame h₂.writes _ hl2,
        stepT_frame h₂.writes _ hl2, stepT_frame h₁.writes _ hl1]

/-! ### Schedules over a family of threads -/

section Family
variable {ι : Type} {T : ι → Thread V} {R W : ι → List Loc}

theorem run_append (s s' : List ι) (σ : State V) :
    run T (s ++ s') σ = run T s' (run T s σ) := by
  induction s generalizing σ with
  | nil => rfl
  | cons i s ih => simp [run, ih]

theorem run_replicate (i : ι) (n : Nat) (σ : State V) :
    run T (List.replicate n i) σ = solo (T i) n σ := by
  induction n generalizing σ with
  | zero => rfl
  | succ n ih => rw [List.replicate_succ, run, solo, ih]

theorem run_of_all_done {τ : State V} (h : ∀ i, (T i).Done τ) (s : List ι) : run T s τ = τ := by
  induction s with
  | nil => rfl
  | cons i s ih => simp [run, stepT_of_done (h i), ih]

/-- The result of a schedule depends only on how often each thread is scheduled. -/
theorem run_perm [DecidableEq ι] (hR : ∀ i, Respects (T i) (R i) (W i)) (hB : Bernstein R W)
    {s s' : List ι} (hp : s.Perm s') (σ : State V) : run T s σ = run T s' σ := by
  induction hp generalizing σ with
  | nil => rfl
  | cons x _ ih => simp [run, ih]
  | swap x y l =>
    simp only [run]
    by_cases hxy : x = y
    · subst hxy; rfl
    · rw [stepT_comm (hR x) (hR y) (hB x y hxy) (hB y x (Ne.symm hxy)) σ]
  | trans _ _ ih1 ih2 => rw [ih1, ih2]

/-- **Interleaving independence (N threads).**  With pairwise Bernstein-disjoint footprints, any two
    complete schedules end in the same state. -/
theorem interleave_indep [DecidableEq ι] (hR : ∀ i, Respects (T i) (R i) (W i))
    (hB : Bernstein R W) {s s' : List ι} {σ : State V}
    (hc : Complete T s σ) (hc' : Complete T s' σ) : run T s σ = run T s' σ := by
  calc run T s σ = run T s' (run T s σ) := (run_of_all_done hc s').symm
    _ = run T (s ++ s') σ := (run_append s s' σ).symm
    _ = run T (s' ++ s) σ := run_perm hR hB List.perm_append_comm σ
    _ = run T s (run T s' σ) := run_append s' s σ
    _ = run T s' σ := run_of_all_done hc' s

/-- No data race at the level of abstract locations. -/
theorem no_conflict (hB : Bernstein R W) : ¬ ∃ i j l, Conflict R W i j l := by
  rintro ⟨i, j, l, hne, ⟨hw, ha⟩ | ⟨hw, ha⟩⟩
  · exact hB i j hne l hw (ha.elim (List.mem_append_left _) (List.mem_append_right _))
  · exact hB j i (Ne.symm hne) l hw (ha.elim (List.mem_append_left _) (List.mem_append_right _))

end Family

/-! ### Two threads -/

/-- The two-thread family: `false` is the first thread, `true` the second. -/
def two (t₁ t₂ : Thread V) : Bool → Thread V
  | false => t₁
  | true => t₂

/-- The footprints of `two t₁ t₂`, so that the `Bool`-indexed family falls under `Bernstein`. -/
def twoL (a b : List Loc) : Bool → List Loc
  | false => a
  | true => b

theorem respects_two {t₁ t₂ : Thread V} {R₁ W₁ R₂ W₂ : List Loc}
    (h₁ : Respects t₁ R₁ W₁) (h₂ : Respects t₂ R₂ W₂) :
    ∀ b, Respects (two t₁ t₂ b) (twoL R₁ R₂ b) (twoL W₁ W₂ b) := by
  intro b; cases b <;> assumption

theorem bernstein_two {R₁ W₁ R₂ W₂ : List Loc} (hB : Bernstein2 R₁ W₁ R₂ W₂) :
    Bernstein (twoL R₁ R₂) (twoL W₁ W₂)
  | false, false, hne => absurd rfl hne
  | false, true, _ => hB.1
  | true, false, _ => hB.2
  | true, true, hne => absurd rfl hne

theorem solo_agree_of_disj {t : Thread V} {W L : List Loc} (h : WritesOnly t W) (hd : Disj W L)
    (k : Nat) (σ : State V) : AgreeOn L (solo t k σ) σ := by
  induction k generalizing σ with
  | zero => intro l _; rfl
  | succ k ih => exact (ih (t.stepT σ)).trans (stepT_agree_of_disj h hd σ)

/-- A schedule is a permutation of its `false`s followed by its `true`s. -/
theorem run_two_sorted {t₁ t₂ : Thread V} {R₁ W₁ R₂ W₂ : List Loc}
    (h₁ : Respects t₁ R₁ W₁) (h₂ : Respects t₂ R₂ W₂) (hB : Bernstein2 R₁ W₁ R₂ W₂)
    (s : List Bool) (σ : State V) :
    run (two t₁ t₂) s σ = solo t₂ (s.count true) (solo t₁ (s.count false) σ) := by
  have hp : s.Perm (List.replicate (s.count false) false ++ List.replicate (s.count true) true) :=
    List.perm_iff_count.2 fun b => by cases b <;> simp [List.count_replicate]
  rw [run_perm (respects_two h₁ h₂) (bernstein_two hB) hp, run_append, run_replicate, run_replicate]
  rfl

/-- **Interleaving independence (two threads, sequential form).**  For every complete schedule the
    final state is that of running the first thread to completion and then the second. -/
theorem interleave_seq2 {t₁ t₂ : Thread V} {R₁ W₁ R₂ W₂ : List Loc}
    (h₁ : Respects t₁ R₁ W₁) (h₂ : Respects t₂ R₂ W₂) (hB : Bernstein2 R₁ W₁ R₂ W₂)
    {s : List Bool} {σ : State V} (hc : Complete (two t₁ t₂) s σ) :
    ∃ k₁ k₂, t₁.Done (solo t₁ k₁ σ) ∧ t₂.Done (solo t₂ k₂ (solo t₁ k₁ σ)) ∧
      run (two t₁ t₂) s σ = solo t₂ k₂ (solo t₁ k₁ σ) := by
  have hs := run_two_sorted h₁ h₂ hB s σ
  refine ⟨s.count false, s.count true, ?_, hs ▸ hc true, hs⟩
  exact done_of_agree h₁ (solo_agree_of_disj h₂.writes hB.2 _ _) (hs ▸ hc false)

/-! ### Products of confined components -/

section Product
variable {ι S : Type}

/-- The `i`-part after any schedule is the solo run of `i`'s local step from its initial part:
    a step of `i` reads only its own part (`readsOwn`), a step of `j ≠ i` leaves it alone
    (`writesOwn`).  `product_noninterference` and `product_noninterference_ro` are read off this
    equation. -/
theorem prun_eq_iter [DecidableEq ι] {g : PSys ι S} (hC : Confined g) (i : ι) (s : List ι)
    (σ : ι → S) : prun g s σ i = iter (fun x => g i (fun _ => x) i) (s.count i) (σ i) := by
  induction s generalizing σ with
  | nil => rfl
  | cons j s ih =>
    by_cases hj : j = i
    · subst hj
      rw [prun, ih, List.count_cons_self, iter, hC.readsOwn j σ (fun _ => σ j) rfl]
    · rw [prun, ih, List.count_cons_of_ne hj, hC.writesOwn j σ i (Ne.symm hj)]

/-- **Non-interference of a product of confined components.**  For every schedule, the part of
    component `i` in the final state is the one obtained by running only `i`'s steps, from any
    state whose `i`-part is the same — the other components, their initial states and the
    interleaving do not matter. -/
theorem product_noninterference [DecidableEq ι] {g : PSys ι S} (hC : Confined g) (i : ι)
    (s : List ι) (σ τ : ι → S) (h : σ i = τ i) :
    prun g s σ i = prun g (s.filter (· = i)) τ i := by
  rw [prun_eq_iter hC, prun_eq_iter hC, List.count_filter (by simp), h]

theorem confined_own [DecidableEq ι] (f : ι → S → S) :
    Confined (fun i σ j => if j = i then f i (σ i) else σ j) :=
  ⟨fun i σ j hj => if_neg hj, fun i σ τ h => by simp only [h]⟩

/-- A system with a shared part that no step changes is the product system of the local steps. -/
theorem rrun_eq_prun {C : Type} [DecidableEq ι] {g : RSys ι C S} (hro : ∀ i c x, (g i c x).1 = c)
    (c : C) (s : List ι) (σ : ι → S) :
    rrun g s (c, σ) = (c, prun (fun i σ j => if j = i then (g i c (σ i)).2 else σ j) s σ) := by
  induction s generalizing σ with
  | nil => rfl
  | cons j s ih => rw [rrun, hro, ih, prun]

/-- Components that share a read-only part (`rul3s`, constants): the shared part never changes and
    each component's part is its solo run against the initial shared part. -/
theorem product_noninterference_ro {C : Type} [DecidableEq ι] {g : RSys ι C S}
    (hro : ∀ i c x, (g i c x).1 = c) (i : ι) (s : List ι) (c : C) (σ : ι → S) :
    (rrun g s (c, σ)).1 = c ∧
    (rrun g s (c, σ)).2 i = iter (fun x => (g i c x).2) (s.count i) (σ i) := by
  rw [rrun_eq_prun hro]
  refine ⟨rfl, (prun_eq_iter (confined_own fun i x => (g i c x).2) i s σ).trans ?_⟩
  simp only [↓reduceIte]

end Product

end PegVerif.Sched
