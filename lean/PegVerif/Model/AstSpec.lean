import PegVerif.Model.Ast
/-
  Specification side of C04 / C05, written on the derivation forest (`TokTree`), independently of
  the stack / loop algorithms of `Model/Ast.lean` (it only shares `Token`, `ActEvent`, `ExecState`
  and the one-line text `nodeLine`).
-/
namespace PegVerif

/-! ## Shape of a derivation forest -/

mutual
  /-- A node spans `b ≤ e` and its children lie inside it, in input order, without overlap. -/
  def WellNested : TokTree → Prop
    | .node t kids => t.b ≤ t.e ∧ WellNestedL t.b t.e kids
  /-- The trees of the forest lie in `[lo, hi]`, in input order: `lo ≤` first `b`, each `e ≤` the
      next `b`, last `e ≤ hi` (and `lo ≤ hi` for the empty forest); each tree is `WellNested`. -/
  def WellNestedL (lo hi : Nat) : List TokTree → Prop
    | [] => lo ≤ hi
    | k :: ks => lo ≤ k.tok.b ∧ WellNested k ∧ WellNestedL k.tok.e hi ks
end

mutual
  /-- Bool checker for `WellNested` (`wellNestedB_iff`). -/
  def wellNestedB : TokTree → Bool
    | .node t kids => decide (t.b ≤ t.e) && wellNestedLB t.b t.e kids
  def wellNestedLB (lo hi : Nat) : List TokTree → Bool
    | [] => decide (lo ≤ hi)
    | k :: ks => decide (lo ≤ k.tok.b) && wellNestedB k && wellNestedLB k.tok.e hi ks
end

/-! ## The tree C05 promises -/

mutual
  /-- A tree without its empty (`b = e`) nodes: an empty node disappears with everything below it
      (under `WellNested` everything below it is empty too: `below_empty_all_empty`); a
      non-empty node keeps exactly its pruned children, in order. -/
  def pruneT : TokTree → List TokTree
    | .node t kids => if t.b = t.e then [] else [.node t (prune kids)]
  def prune : List TokTree → List TokTree
    | [] => []
    | k :: ks => pruneT k ++ prune ks
end

mutual
  /-- Pre-order listing of a forest with depths: a node, then its children one level deeper,
      then its later siblings. -/
  def preorderT (depth : Nat) : TokTree → List (Nat × Token)
    | .node t kids => (depth, t) :: preorder (depth + 1) kids
  def preorder (depth : Nat) : List TokTree → List (Nat × Token)
    | [] => []
    | k :: ks => preorderT depth k ++ preorder depth ks
end

/-- The printed line of a node at depth `d`: `d` spaces, rule name, a space, the quoted input
    substring `inp[b:e]`, newline. -/
def lineOf (quote : List Sym → String) (pretty : Bool) (inp : List Sym) (dt : Nat × Token) :
    String :=
  nodeLine quote pretty dt.1 dt.2.rule (inp.extract dt.2.b dt.2.e)

/-- The token can be sliced out of `inp`. -/
def InRange (inp : List Sym) (t : Token) : Prop := t.b ≤ t.e ∧ t.e ≤ inp.length

instance (inp : List Sym) (t : Token) : Decidable (InRange inp t) := by
  unfold InRange; infer_instance

/-! ## The action trace C04 promises -/

def isCapture (t : Token) : Bool := t.rule == "PegText"

/-- An action token: one of the `ruleActionN` arms (and not the capture arm, which comes first
    in the `switch`; the names are disjoint in every generated parser). -/
def isAction (acts : List String) (t : Token) : Bool := !isCapture t && acts.contains t.rule

/-- `begin, end, text` as set by the capture `t`. -/
def captureState (inp : List Sym) (t : Token) : ExecState := ⟨t.b, t.e, inp.extract t.b t.e⟩

/-- What happens when the derivation node with token `t` is completed. -/
def closeTok (acts : List String) (inp : List Sym) (t : Token) (s : ExecState) :
    List ActEvent × ExecState :=
  if isCapture t then ([], captureState inp t)
  else if isAction acts t then ([ActEvent.mk' t.rule s], s)
  else ([], s)

mutual
  /-- Left-to-right walk of a derivation tree carrying the most recently completed capture:
      first the children, then the node itself (a capture / action is completed when its node
      closes). -/
  def actionTraceT (acts : List String) (inp : List Sym) :
      TokTree → ExecState → List ActEvent × ExecState
    | .node t kids, s =>
      let r := actionTrace acts inp kids s
      let c := closeTok acts inp t r.2
      (r.1 ++ c.1, c.2)
  def actionTrace (acts : List String) (inp : List Sym) :
      List TokTree → ExecState → List ActEvent × ExecState
    | [], s => ([], s)
    | k :: ks, s =>
      let r := actionTraceT acts inp k s
      let r' := actionTrace acts inp ks r.2
      (r.1 ++ r'.1, r'.2)
end

/-- List formulation: the capture state in force after the tokens `pre` — that of the LAST
    `PegText` token of `pre`, or `(0, 0, "")` if there is none. -/
def lastCapture (inp : List Sym) (pre : List Token) : ExecState :=
  match pre.reverse.find? isCapture with
  | some t => captureState inp t
  | none => ExecState.init

end PegVerif
