import PegVerif.Model.Sem
import PegVerif.Model.WellFormed
/-
  Translation validation of the `-switch` rewrite (`Model/Optimise.lean`).

  The rewrite `optimizeAlternates` is not proved correct (it was unsound for some grammars before
  its repair, and its first sets are computed with the interval sets of `set/set.go`).  Instead `swOK G G'` is a decidable, executable check of ONE pair (grammar,
  rewritten grammar); `Proofs/SwitchLemmas.lean` proves that an accepted pair is semantically
  equivalent (`Eval_switch`).

  * `firstE G' f e`   a SOUND first set: `some K` promises that `e` can only succeed at a position
                      whose next symbol (`peek`, the end symbol beyond the input) is in `K`;
                      `none` = unknown.  These are never incomplete: an expression that can
                      succeed without consuming gets `none`, and a sequence that starts with `a?`
                      or `a*` gets the union of the first sets of `a` and of the rest.
  * `swMatchE F e e'` `e'` is `e` up to rewriting ordered choices into `ualt ks us` or
                      `alt (os ++ [ualt ks us])`, each rewritten choice passing `rearrCheck`.
  * `swOK G G'`       same rules (names, ids, order), bodies related, `G'` well-formed (`WFB`, which
                      is what supplies derivations for alternatives that are now tried EARLIER than
                      in `G`).

  Everything here is structurally recursive (fuel), so it runs in the driver and under `decide`.
-/
namespace PegVerif

/-! ## 1. Key sets -/

/-- No code point in both (every pair of ranges is separated). -/
def KeySet.disj (a b : KeySet) : Bool :=
  a.all (fun r => b.all (fun s => decide (r.2 < s.1) || decide (s.2 < r.1)))

/-- `[lo, hi] ⊆ b`, where `b` may cover the range by several pieces; `fuel` bounds the number of
    pieces. -/
def KeySet.covers (b : KeySet) : Nat → Nat → Nat → Bool
  | 0, _, _ => false
  | f + 1, lo, hi =>
    match b.find? (fun s => decide (s.1 ≤ lo) && decide (lo ≤ s.2)) with
    | none => false
    | some s => decide (hi ≤ s.2) || KeySet.covers b f (s.2 + 1) hi

/-- `a ⊆ b`. -/
def KeySet.sub (a b : KeySet) : Bool :=
  a.all (fun r => decide (r.2 < r.1) || KeySet.covers b (b.length + 1) r.1 r.2)

/-! ## 2. Sound first sets -/

/-- First set WITH nullability.  `some (K, n)` promises: if the expression succeeds at `p` then
    `K.has (peek inp p)`, or `n = true` and it succeeded without consuming (it ended at `p`).
    `none` = unknown.  `.` gets `none`: the model's input alphabet is all of `Nat`, so "every symbol
    but the end symbol" is not a finite list of ranges (and such a set could never be disjoint from
    another alternative's anyway). -/
def firstZ (G : Grammar) : Nat → Expr → Option (KeySet × Bool)
  | 0, _ => none
  | _ + 1, .chr c => some ([(c, c)], false)
  | _ + 1, .rng lo hi => some ([(lo, hi)], false)
  | _ + 1, .str (c :: _) => some ([(c, c)], false)
  | f + 1, .name n =>
    match G.body n with
    | some b => firstZ G f b
    | none => none
  | f + 1, .inl _ e => firstZ G f e
  | _ + 1, .seq [] => some ([], true)
  | f + 1, .seq (e :: es) =>
    match firstZ G f e with
    | none => none
    | some (K, false) => some (K, false)
    | some (K, true) =>
      match firstZ G f (.seq es) with
      | none => none
      | some (K2, n2) => some (K ++ K2, n2)
  | _ + 1, .alt [] => some ([], false)
  | f + 1, .alt (e :: es) =>
    match firstZ G f e, firstZ G f (.alt es) with
    | some (K1, n1), some (K2, n2) => some (K1 ++ K2, n1 || n2)
    | _, _ => none
  | f + 1, .ualt _ es => firstZ G f (.alt es)
  | f + 1, .plus e =>
    match firstZ G f e with
    | some (K, false) => some (K, false)
    | _ => none
  | f + 1, .query e =>
    match firstZ G f e with
    | some (K, _) => some (K, true)
    | none => none
  | f + 1, .star e =>
    match firstZ G f e with
    | some (K, false) => some (K, true)
    | _ => none
  | _ + 1, .peekFor _ => some ([], true)
  | _ + 1, .peekNot _ => some ([], true)
  | _ + 1, .pred _ => some ([], true)
  | _ + 1, .stmt _ => some ([], true)
  | _ + 1, .act _ => some ([], true)
  | _ + 1, .nil => some ([], true)
  | f + 1, .push e _ => firstZ G f e
  | f + 1, .ipush e _ => firstZ G f e
  | _ + 1, _ => none

/-- `some K`: if the expression succeeds at `p` then `K.has (peek inp p)` (the first set of an
    expression that must consume). -/
def firstE (G : Grammar) (f : Nat) (e : Expr) : Option KeySet :=
  match firstZ G f e with
  | some (K, false) => some K
  | _ => none

/-- The fuel `swOK` uses (that of the well-formedness check). -/
def swFuel (G : Grammar) : Nat := wfFuel G

/-! ## 3. The rearrangement check -/

/-- `firstE` of both known and disjoint. -/
def disjF (F : Expr → Option KeySet) (a b : Expr) : Bool :=
  match F a, F b with
  | some A, some B => A.disj B
  | _, _ => false

/-- The targets in ORIGINAL order, from the assignment `tags` (`none` = the next ordered
    alternative, `some k` = case `k` of the switch).  Checks on the way that the ordered alternatives
    are used up exactly, and the order-reversal guard: an ordered alternative that originally came
    AFTER an unordered one (so it is now tried before it) has a first set disjoint from it. -/
def walk (F : Expr → Option KeySet) (us : List Expr) : List (Option Nat) → List Expr → Option (List Expr)
  | [], [] => some []
  | [], _ :: _ => none
  | none :: _, [] => none
  | none :: tags, o :: os => (walk F us tags os).map (o :: ·)
  | some k :: tags, os =>
    match us[k]? with
    | none => none
    | some u => if os.all (fun o => disjF F o u) then (walk F us tags os).map (u :: ·) else none

/-- Case `k` with body `u` is selected whenever `u` can succeed: its first set is inside its own
    keys (unless it is the default) and disjoint from the keys of every earlier case. -/
def keyOK (F : Expr → Option KeySet) (ks : List KeySet) (n : Nat) (k : Nat) (u : Expr) : Bool :=
  match F u with
  | none => false
  | some K =>
    (decide (k = n - 1) || (match ks[k]? with | some Kk => K.sub Kk | none => false)) &&
      ((ks.take (n - 1)).take k).all (fun Kj => K.disj Kj)

def keysOKFrom (F : Expr → Option KeySet) (ks : List KeySet) (n : Nat) : Nat → List Expr → Bool
  | _, [] => true
  | k, u :: us => keyOK F ks n k u && keysOKFrom F ks n (k + 1) us

/-- The search for an assignment, on the matrix `M[i][j]` = "original alternative `i` matches target
    `j` of `os ++ us`".  Greedy: the next unused ordered alternative if it matches, else the first
    unused case that matches.  (Soundness does not depend on this function.) -/
def findTags (nOrd nUn : Nat) : List (List Bool) → Nat → List Nat → Option (List (Option Nat))
  | [], _, _ => some []
  | row :: rows, io, used =>
    if io < nOrd && row.getD io false then
      (findTags nOrd nUn rows (io + 1) used).map (none :: ·)
    else
      match (List.range nUn).find? (fun k => !used.contains k && row.getD (nOrd + k) false) with
      | none => none
      | some k => (findTags nOrd nUn rows io (k :: used)).map (some k :: ·)

def splitLast : List Expr → Option (List Expr × Expr)
  | [] => none
  | [e] => some ([], e)
  | e :: es => (splitLast es).map (fun p => (e :: p.1, p.2))

/-- `alt es` (`nEs` alternatives) against the ordered alternatives `os` followed by the switch
    `ualt ks us`: find an assignment and verify it.  `matchTs ts` = the original alternatives match
    `ts` pointwise. -/
def rearrCheck (F : Expr → Option KeySet) (nEs : Nat) (os : List Expr) (ks : List KeySet)
    (us : List Expr) (M : List (List Bool)) (matchTs : List Expr → Bool) : Bool :=
  match findTags os.length us.length M 0 [] with
  | none => false
  | some tags =>
    match walk F us tags os with
    | none => false
    | some ts =>
      matchTs ts &&
        !us.isEmpty && decide (us.length - 1 ≤ ks.length) &&
        decide (nEs = os.length + us.length) &&
        (List.range us.length).all (fun k => tags.contains (some k)) &&
        keysOKFrom F ks us.length 0 us

mutual
  /-- `e'` is `e` with some ordered choices rewritten into switches, each rewrite passing the
      guard conditions (first sets `F`, computed on the rewritten grammar). -/
  def swMatchE (F : Expr → Option KeySet) : Expr → Expr → Bool
    | .dot, .dot => true
    | .chr c, .chr c' => c == c'
    | .rng lo hi, .rng lo' hi' => lo == lo' && hi == hi'
    | .str s, .str s' => s == s'
    | .name n, .name n' => n == n'
    | .inl n e, .inl n' e' => n == n' && swMatchE F e e'
    | .pred c, .pred c' => c == c'
    | .stmt c, .stmt c' => c == c'
    | .act c, .act c' => c == c'
    | .nil, .nil => true
    | .seq es, .seq es' => swMatchL F es es'
    | .ualt ks es, .ualt ks' es' => ks == ks' && swMatchL F es es'
    | .peekFor e, .peekFor e' => swMatchE F e e'
    | .peekNot e, .peekNot e' => swMatchE F e e'
    | .query e, .query e' => swMatchE F e e'
    | .star e, .star e' => swMatchE F e e'
    | .plus e, .plus e' => swMatchE F e e'
    | .push e r, .push e' r' => r == r' && swMatchE F e e'
    | .ipush e r, .ipush e' r' => r == r' && swMatchE F e e'
    | .alt es, .alt es' =>
      swMatchL F es es' ||
        (match splitLast es' with
         | some (os, .ualt ks us) =>
           rearrCheck F es.length os ks us (swMatrix F es (os ++ us)) (fun ts => swMatchL F es ts)
         | _ => false)
    | .alt es, .ualt ks us =>
      rearrCheck F es.length [] ks us (swMatrix F es us) (fun ts => swMatchL F es ts)
    | _, _ => false
  def swMatchL (F : Expr → Option KeySet) : List Expr → List Expr → Bool
    | [], [] => true
    | e :: es, e' :: es' => swMatchE F e e' && swMatchL F es es'
    | _, _ => false
  /-- `swMatchE` of every original alternative with every candidate target. -/
  def swMatrix (F : Expr → Option KeySet) : List Expr → List Expr → List (List Bool)
    | [], _ => []
    | e :: es, cands => cands.map (fun t => swMatchE F e t) :: swMatrix F es cands
end

/-! ## 4. The grammar-level check -/

def swRules (F : Expr → Option KeySet) : List Rule → List Rule → Bool
  | [], [] => true
  | r :: rs, r' :: rs' =>
    r.name == r'.name && r.id == r'.id && swMatchE F r.body r'.body && swRules F rs rs'
  | _, _ => false

/-- `G'` is an acceptable `-switch` rewrite of `G`. -/
def swOK (G G' : Grammar) : Bool :=
  WFB G' && swRules (firstE G' (swFuel G')) G.rules G'.rules

end PegVerif
