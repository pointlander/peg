import PegVerif.Model.SwitchSafe
import PegVerif.Model.WellFormed
import PegVerif.Model.Checkers
/-
  The decidable hypotheses of the end-to-end theorems of the option sets with `-switch` and/or
  `-inline -noast` (`Props/C02Switch.lean`, `Props/C02InlineSwitch.lean`, `Props/C07Switch.lean`,
  `Props/C07Inline.lean`), in a file without theorems, so that the driver `pegmodel emit` evaluates
  the very definitions the theorems use.  The facts about them are in `Proofs/WorldNoastInline.lean`
  and `Proofs/FastCheck.lean`.
-/
namespace PegVerif

/-! ### `-switch` -/

/-- The decidable side condition under which the `-switch` parser is proved equivalent to the
    grammar it was generated from (`switchSafe`, printed per grammar by `pegmodel emit`):
    * `swOK G G'`       — the optimiser's rewrite is a valid rearrangement w.r.t. sound first sets
                          (Eval-level, `C02_switch_validated`);
    * `GrammarOKS G'`   — every `parentDetect` elision of a leading test is justified by the case
                          keys (`casesLeadOK`; for a leading `.`: keys below END), terminals below END;
    * `LinkedOK G'`, `plainS G'` — as for the default parser. -/
def switchSafe (G G' : Grammar) : Bool :=
  swOK G G' && GrammarOKS G' && LinkedOK G' && G'.rules.all (fun r => r.body.plainS)

/-! ### `-inline -switch` -/

/-- The decidable side condition under which the parser emitted with `-inline -switch` from the
    rewritten grammar `G'` is proved equivalent to the source grammar `G`:
    * `swOK G G'`        — the optimiser's rewrite is a valid rearrangement w.r.t. sound first sets
                           (Eval-level, `C02_switch_validated`);
    * `GrammarOKIS G'`   — on the bodies AS EMITTED WITH `-inline` (references to once-referenced
                           rules replaced by the rule body): terminals below END, every reference
                           left is to a rule that has a function under `-inline`, and every
                           `parentDetect` elision of a leading test — including the ones inside a
                           body compiled in place behind a `case` — is justified by the case keys
                           (`casesLeadOK`; for a leading `.`: keys below END);
    * `LinkedOK G'`, `plainS G'` — as for the default parser (`plainS`: `G'` itself carries no
                           `inl` node; those only arise in the expansion). -/
def inlineSwitchSafe (G G' : Grammar) : Bool :=
  swOK G G' && GrammarOKIS G' && LinkedOK G' && G'.rules.all (fun r => r.body.plainS)

open Noast

/-! ### `-noast -switch` -/

/-- The decidable side condition under which the `-noast -switch` parser emitted from `G'` is proved
    equivalent to the source grammar `G`, for a kit `K` (which rules are action rules, which trace
    entries are compared):
    * `swOK G G'`          — the optimiser's rewrite is a valid rearrangement w.r.t. sound first sets
                             (Eval-level, `C02_switch_validated`);
    * `GrammarOKNS K G'`   — `GrammarOKS G'` (every `parentDetect` elision of a leading test is
                             justified by the case keys, `casesLeadOK`; terminals below END; references
                             only to rules with a function) and `GrammarOKN K G'` (the `-noast`
                             fragment `Expr.okN`: captures named "PegText", action rules with their code);
    * `plainS G'`          — no `-inline` node (soundness of `CheckAlwaysSucceeds`).
    (`LinkedOK`, needed in AST mode for the memo keys, is not needed: `-noast` code has no memo.) -/
def noastSwitchSafeK (K : NKit) (G G' : Grammar) : Bool :=
  swOK G G' && GrammarOKNS K G' && G'.rules.all (fun r => r.body.plainS)

/-- … for the kit that compares the whole trace (`Kall G'`: the action rules of `G'`; grammars
    with state-change statements `!{…}` are excluded by `Expr.okN`). -/
def noastSwitchSafe (G G' : Grammar) : Bool := noastSwitchSafeK (Kall G') G G'

/-! ### `-inline -noast`, with and without `-switch` nodes

  Cost.  `GrammarOKNIS` is written so that everything that does not depend on the rule is computed
  ONCE and shared by all rules (the `let`s below are evaluated once per call in compiled code), and
  so that the emitted program is not needed:
    * the reached rules (`reachedRules G`), from which the reference counts `-inline` looks at are
      folded (`rulesCount G n` recomputes the reachability closure on every call);
    * the table "rule `n` gets a function under `-inline`" (`inlineFuncs`), one pass over the rules
      that only tracks whether the label counter is still 0 (`hasFuncI` of Model/Checkers.lean runs
      `compileAll` — dry and real pass, itself recomputing `rulesCount` for every reference — for
      every reference it is asked about);
    * the fuel;
  and only the rules that get a function are expanded (a rule compiled in place is checked where it
  is compiled, inside the expanded body of the rule that refers to it).
  `Proofs/WorldNoastInline.lean` proves that the shared quantities are the ones of the model
  (`rulesCountWith_eq`, `hasFuncOf_inlineFuncs`).
-/

/-- The option set of the `-inline -noast` theorems (`o.switch` is not read by the emission:
    the `-switch` rewrite is in the grammar). -/
def inlNOpts : Opts := { inline := true, switch := false, ast := false }

/-- `rulesCount` with the reachability closure as an argument, so that it can be shared. -/
def rulesCountWith (G : Grammar) (reached : List String) (n : String) : Nat :=
  let first := match G.rules with | r :: _ => if r.name == n then 1 else 0 | [] => 0
  first + (reached.foldl (fun acc m =>
    match G.body m with
    | some b => acc + ((refsE b).filter (· == n)).length
    | none => acc) 0)

/-- Which rules get a function under `-inline`, in the order of the rules (one entry per rule).
    The slot of a rule (`slotOf`) depends on the label counter only through "is it 0" — the rule
    emitted with label 0 keeps its function even if it has exactly one reference — and the counter
    leaves 0 with the first rule whose body is not `nil`; `z` = "the counter is still 0". -/
def inlineFuncs (cnt : String → Nat) : List Rule → Bool → List (String × Bool)
  | [], _ => []
  | r :: rs, z =>
    match slotOf inlNOpts cnt r (if z then 0 else 1) with
    | .undefinedNil => (r.name, false) :: inlineFuncs cnt rs z
    | .func => (r.name, true) :: inlineFuncs cnt rs false
    | _ => (r.name, false) :: inlineFuncs cnt rs false

/-- Lookup: the entry of the FIRST rule with that name (`t.Rules[name]`). -/
def hasFuncOf (tbl : List (String × Bool)) (n : String) : Bool :=
  match tbl.find? (fun x => x.1 == n) with
  | some x => x.2
  | none => false

/-- The decidable condition on the linked (and possibly `-switch`-rewritten) grammar for emission
    with `-inline -noast`: for every rule that gets a function, the body AS EMITTED (references to
    once-referenced rules replaced by the rule's body) is
    * in the fragment of `Expr.okS` — terminals below END, no `TypeString`, every reference left is
      to a rule that gets a function, every `ualt ks es` non-empty with `casesLeadOK ks es` (on the
      expanded case bodies: the `parentDetect` flags are handed into a body compiled in place); and
    * in the `-noast` fragment `Expr.okNB K` — captures are the nodes named "PegText", action rules
      carry their code, … (also checked on the expanded body: an action rule referenced once is
      compiled in place). -/
def GrammarOKNIS (K : NKit) (G : Grammar) : Bool :=
  let cnt : String → Nat := rulesCountWith G (reachedRules G)
  let d : String → Bool := hasFuncOf (inlineFuncs cnt G.rules true)
  let fuel := G.fuel
  G.rules.all fun r => match G.find r.name with
    | some r' =>
      !d r'.name ||
        (let b := expandInline G cnt fuel r'.body
         b.okS d && b.okNB K)
    | none => true

/-- The decidable side condition under which the `-inline -noast` parser emitted from `G` is proved
    to implement the PEG semantics of `G`, for a kit `K` (which rules are action rules, which trace
    entries are compared):
    * `GrammarOKNIS K G`  — see there;
    * `plainS G`          — `G` itself carries no `inl` node (those only arise in the expansion):
                            soundness of `CheckAlwaysSucceeds`.
    (`LinkedOK`, needed in AST mode for the memo keys, is not needed: `-noast` code has no memo.) -/
def inlineNoastSafeK (K : NKit) (G : Grammar) : Bool :=
  GrammarOKNIS K G && G.rules.all (fun r => r.body.plainS)

/-- … for the kit that compares the whole trace (`Kall G`: the action rules of `G`; grammars with
    state-change statements `!{…}` are excluded by `Expr.okN`). -/
def inlineNoastSafe (G : Grammar) : Bool := inlineNoastSafeK (Kall G) G

/-- The decidable side condition under which the `-inline -noast -switch` parser emitted from the
    rewritten grammar `G'` is proved equivalent to the source grammar `G`:
    * `swOK G G'`              — the optimiser's rewrite is a valid rearrangement w.r.t. sound first
                                 sets (Eval-level, `C02_switch_validated`);
    * `inlineNoastSafeK K G'`  — as above, for `G'`. -/
def inlineNoastSwitchSafeK (K : NKit) (G G' : Grammar) : Bool :=
  swOK G G' && inlineNoastSafeK K G'

def inlineNoastSwitchSafe (G G' : Grammar) : Bool := inlineNoastSwitchSafeK (Kall G') G G'

end PegVerif
