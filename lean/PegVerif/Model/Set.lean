/-
  Executable model of `/repo/set/set.go` (package `set`), transcribed case by case.  Core Lean only.

  Representation.  A Go `*Set` is `Head <-> n1 <-> ... <-> nk <-> Tail` with sentinel values
  `Head = {Begin: MaxInt32, End: 0}`, `Tail = {Begin: 0, End: 0}`.  The model keeps the intervals
  `(Begin, End)` of `n1 … nk` in list order:

      []            <->  Head.Forward == nil  and  Tail.Backward == nil   (NewSet, no list at all)
      [i1,…,ik]     <->  Head.Forward = n1, …, nk.Forward = &Tail, Tail.Backward = nk, … (k ≥ 1)

  The third state the Go code could distinguish, `Head.Forward == &Tail` (linked, no node), is not
  produced by any exported operation from a `NewSet()` (Copy creates it only from a set that already
  has it, AddRange and Complement never create it); the Go harness `setx run` prints `LINKED-EMPTY`
  if it ever sees it.

  Node positions: `0` = `&Head`, `i` (1 ≤ i ≤ k) = `n_i`, `k+1` = `&Tail`.  `pos.Forward == nil` iff
  `pos = k+1`; `pos.Backward == nil` iff `pos = 0` (only in the linked state).

  Outcomes.  Values are mathematical integers.  `rune` arithmetic that can wrap (`a.End + 1`,
  `a.Begin - 1` in Complement) goes through `wrap32`.  Operations whose Go control flow can leave the
  representable states return `Res`:
    * `.corrupt`  – the Go code splices the list into a cycle / overwrites a sentinel (only for
                    reversed or negative ranges, e.g. `AddRange(5,1)` on a non-empty set);
    * `.diverge`  – the Go loop does not terminate (`String` on an interval ending at MaxInt32,
                    `code <= node.End` is then always true);
    * `.panic`    – a nil dereference.  After commits b47ab7c/3339f42/4ebdb6e every dereference in
                    set.go is guarded for every representable state, so the model never produces it;
                    the constructor exists for the driver protocol (`PANIC`) and so that `no_panic`
                    is a statement about `Res` values.
-/
namespace PegVerif.MSet

abbrev Iv := Int × Int
abbrev MSet := List Iv

/-- `math.MaxInt32`, the value of `Head.Begin`. -/
def MAXI : Int := 2147483647

inductive Res (α : Type) where
  | ok (a : α)
  | panic
  | corrupt
  | diverge
deriving Repr, DecidableEq

def Res.isOk {α} : Res α → Bool
  | .ok _ => true
  | _ => false

/-- int32 wrap-around for a single `+ 1` / `- 1` on a rune. -/
def wrap32 (x : Int) : Int :=
  if x > 2147483647 then x - 4294967296 else if x < -2147483648 then x + 4294967296 else x

/-! ### Abstract meaning -/

/-- `x` is a member: some interval contains it. -/
def mem (s : MSet) (x : Int) : Prop := ∃ p ∈ s, p.1 ≤ x ∧ x ≤ p.2

/-- Boolean version of `mem` (used to count members). -/
def memb (s : MSet) (x : Int) : Bool := s.any (fun p => decide (p.1 ≤ x) && decide (x ≤ p.2))

/-! ### AddRange -/

/-- Forward scan `for beginNode.Forward != nil && x > beginNode.Forward.End` on a *linked* list:
    number of steps taken from `&Head`.  The `[]` clause is the step onto `Tail` (`Tail.End = 0`);
    `Tail.Forward == nil` then stops the loop. -/
def fwdScan (x : Int) : MSet → Nat
  | [] => if x > 0 then 1 else 0
  | (_, hi) :: r => if x > hi then fwdScan x r + 1 else 0

/-- Backward scan `for endNode.Backward != nil && e < endNode.Backward.Begin` on a *linked* list;
    the argument is the node list in Backward order (i.e. reversed).  The `[]` clause is the step
    onto `Head` (`Head.Begin = MaxInt32`). -/
def bwdScan (e : Int) : MSet → Nat
  | [] => if e < MAXI then 1 else 0
  | (lo, _) :: r => if e < lo then bwdScan e r + 1 else 0

/-- The `if … else if …` chain of `AddRange` once the two scans have stopped with `beginNode` at
    position `p` and `endNode` at position `q` of a linked list with `k = s.length ≥ 1` nodes.
    `beginNode.Forward == nil` iff `p = k+1` (Tail), `endNode.Backward == nil` iff `q = 0` (Head). -/
def addRangeAt (s : MSet) (b e : Int) (p q : Nat) : Res MSet :=
  let k := s.length
  if p = k + 1 ∧ q = 0 then
    -- branch 1 on a linked list: the new node is spliced between Tail and Head.
    .corrupt
  else if p ≠ k + 1 ∧ q ≠ 0 ∧ p + 2 = q then
    -- branch 2: beginNode.Forward == endNode.Backward (position p+1 = q-1, a real node)
    match s[p]? with
    | some (lo, hi) =>
      .ok (s.take p ++ [(if b < lo then b else lo, if e > hi then e else hi)] ++ s.drop (p + 1))
    | none => .corrupt
  else if p ≠ k + 1 ∧ q = 0 then
    -- branch 3: insert after beginNode
    .ok (s.take p ++ [(b, e)] ++ s.drop p)
  else if p = k + 1 ∧ q ≠ 0 then
    -- branch 4: insert before endNode
    .ok (s.take (q - 1) ++ [(b, e)] ++ s.drop (q - 1))
  else if p + 1 = q then
    -- branch 5: beginNode.Forward == endNode; insert after beginNode
    .ok (s.take p ++ [(b, e)] ++ s.drop p)
  else if p + 1 = q then
    -- branch 6: beginNode == endNode.Backward; the same condition on a consistent list: dead code
    .ok (s.take (q - 1) ++ [(b, e)] ++ s.drop (q - 1))
  else if p + 2 < q then
    -- branch 7: nodes p+1 … q-1 are replaced by node p+1 with
    --   Begin = min(begin, Begin(p+1)),  End = max(end, End(q-1))
    match s[p]?, s[q - 2]? with
    | some (lo, _), some (_, hi') =>
      .ok (s.take p ++ [(if b < lo then b else lo, max e hi')] ++ s.drop (q - 1))
    | _, _ => .corrupt
  else
    -- branch 7 with q ≤ p (reversed range): node(p+1).Forward = an earlier node, or Tail/Head
    -- are overwritten: the list becomes cyclic.
    .corrupt

/-- `func (s *Set) AddRange(begin, end rune)`. -/
def addRange (s : MSet) (b e : Int) : Res MSet :=
  match s with
  | [] =>
    -- Head.Forward == nil && Tail.Backward == nil: no scan step, first branch.
    .ok [(b, e)]
  | _ :: _ =>
    addRangeAt s b e (fwdScan b s) (s.length + 1 - bwdScan e s.reverse)

/-- Which of the seven branches of `AddRange` is taken (same conditions as `addRangeAt`). -/
def addBranch (s : MSet) (b e : Int) : Nat :=
  match s with
  | [] => 1
  | _ :: _ =>
    let k := s.length
    let p := fwdScan b s
    let q := k + 1 - bwdScan e s.reverse
    if p = k + 1 ∧ q = 0 then 1
    else if p ≠ k + 1 ∧ q ≠ 0 ∧ p + 2 = q then 2
    else if p ≠ k + 1 ∧ q = 0 then 3
    else if p = k + 1 ∧ q ≠ 0 then 4
    else if p + 1 = q then 5
    else if p + 1 = q then 6
    else 7

/-- `func (s *Set) Add(a rune)`. -/
def add (s : MSet) (a : Int) : Res MSet := addRange s a a

/-! ### Has -/

/-- `func (s *Set) Has(begin rune) bool`. -/
def has (s : MSet) (x : Int) : Bool :=
  match s with
  | [] => false                                   -- Head.Forward == nil
  | _ :: _ =>
    let p := fwdScan x s
    if p = s.length + 1 then false                -- stopped on Tail: Forward == nil
    else match s[p]? with
      | some (lo, _) => decide (x ≥ lo)
      | none => decide (x ≥ 0)                    -- beginNode.Forward == &Tail, Tail.Begin = 0

/-! ### Len, Copy, String -/

/-- `func (s *Set) Len() int` (Go `int` is 64 bit: no wrap-around for rune intervals). -/
def len : MSet → Int
  | [] => 0
  | (lo, hi) :: r => (hi - lo + 1) + len r

/-- `func (s *Set) Copy() *Set`: node by node. -/
def copy : MSet → MSet
  | [] => []
  | (lo, hi) :: r => (lo, hi) :: copy r

/-- `for code := lo; code <= hi; code++`. -/
def ivElems (lo hi : Int) : List Int :=
  (List.range (hi + 1 - lo).toNat).map (fun (i : Nat) => lo + (i : Int))

/-- The numbers `String` prints, in order. -/
def elems : MSet → Res (List Int)
  | [] => .ok []
  | (lo, hi) :: r =>
    if lo ≤ hi ∧ hi ≥ MAXI then .diverge
    else match elems r with
      | .ok l => .ok (ivElems lo hi ++ l)
      | .panic => .panic
      | .corrupt => .corrupt
      | .diverge => .diverge

def render (l : List Int) : String := "[" ++ " ".intercalate (l.map toString) ++ "]"

/-- `func (s *Set) String() string`. -/
def toStr (s : MSet) : Res String :=
  match elems s with
  | .ok l => .ok (render l)
  | .panic => .panic
  | .corrupt => .corrupt
  | .diverge => .diverge

/-! ### Union -/

/-- The loop of `Union`: `set.AddRange(node.Begin, node.End)` for every node of `a`. -/
def addAll (acc : MSet) : MSet → Res MSet
  | [] => .ok acc
  | (lo, hi) :: r =>
    match addRange acc lo hi with
    | .ok acc' => addAll acc' r
    | .panic => .panic
    | .corrupt => .corrupt
    | .diverge => .diverge

/-- `func (s *Set) Union(a *Set) *Set`. -/
def union (s a : MSet) : Res MSet := addAll (copy s) a

/-! ### Intersects -/

def hit (x y : Iv) : Bool :=
  (decide (y.1 ≥ x.1) && decide (y.1 ≤ x.2)) || (decide (y.2 ≥ x.1) && decide (y.2 ≤ x.2))

/-- inner `for y.Forward != nil` loop: `true` = `return true`. -/
def interInner (x : Iv) : MSet → Bool
  | [] => false
  | y :: ys => if hit x y then true else interInner x ys

/-- outer loop over the nodes of the first argument against the whole of `b`;
    `some r` = the function returned `r`, `none` = the loop ran to completion. -/
def interOuter (b : MSet) : MSet → Option Bool
  | [] => none
  | x :: xs =>
    if b.isEmpty then some false                 -- `y == nil`
    else if interInner x b then some true
    else interOuter b xs

/-- `func (s *Set) Intersects(b *Set) bool`. -/
def intersects (s b : MSet) : Bool :=
  if s.isEmpty then false
  else match interOuter b s with
    | some r => r
    | none =>
      if b.isEmpty then false
      else match interOuter s b with
        | some r => r
        | none => false

/-! ### Complement -/

/-- The `for a.Forward != nil` loop of `Complement` plus the final `if !covered && pre <= endSymbol`;
    returns the nodes appended to the result, in order. -/
def compLoop (limit : Int) (pre : Int) (covered : Bool) : MSet → MSet
  | [] => if !covered && decide (pre ≤ limit) then [(pre, limit)] else []
  | (lo, hi) :: r =>
    (if pre < lo then [(pre, wrap32 (lo - 1))] else []) ++
      (if hi ≥ limit then compLoop limit pre true r
       else compLoop limit (wrap32 (hi + 1)) covered r)

/-- `func (s *Set) Complement(endSymbol rune) *Set`. -/
def complement (s : MSet) (limit : Int) : MSet :=
  match s with
  | [] => [(0, limit)]                                   -- Len() == 0
  | (lo, hi) :: r =>
    if len s = 0 then [(0, limit)]
    else if lo = 0 ∧ hi = limit then []
    else if 0 = lo then compLoop limit (wrap32 (hi + 1)) false r
    else compLoop limit 0 false s

/-! ### Equal -/

/-- the `for` inside `run`: extends `end` over overlapping or adjacent successors. -/
def runEnd (end_ : Int) : MSet → Int × MSet
  | [] => (end_, [])
  | (lo, hi) :: r => if lo ≤ end_ + 1 then runEnd (max end_ hi) r else (end_, (lo, hi) :: r)

/-- `run(n)`: `none` = `ok == false` (n is nil or Tail). -/
def run : MSet → Option (Int × Int × MSet)
  | [] => none
  | (lo, hi) :: r => some (lo, (runEnd hi r).1, (runEnd hi r).2)

/-- the `for { … }` of `Equal`, with fuel (`0` = the loop did not finish: `.diverge`). -/
def equalLoop : Nat → MSet → MSet → Res Bool
  | 0, _, _ => .diverge
  | f + 1, x, y =>
    match run x, run y with
    | none, none => .ok true
    | none, some _ => .ok false
    | some _, none => .ok false
    | some (xb, xe, xn), some (yb, ye, yn) =>
      if xb ≠ yb ∨ xe ≠ ye then .ok false else equalLoop f xn yn

/-- `func (s *Set) Equal(a *Set) bool`. -/
def equal (s a : MSet) : Res Bool := equalLoop (s.length + 1) s a

/-! ### Building a set from a sequence of AddRange calls -/

def build (ops : List Iv) : Res MSet := addAll [] ops

end PegVerif.MSet
