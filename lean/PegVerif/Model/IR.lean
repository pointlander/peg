import PegVerif.Model.Basic
/-
  The instruction set of emitted rule bodies: one constructor per statement shape that
  `compile` in `tree/peg.go` can print (1043-1270, 1352-1373).  A rule body is a flat list of
  instructions; Go blocks are kept as no-op markers `bb`/`be` (they matter only for Go scoping,
  property C08), a `switch` is flattened with synthetic labels `(sw, i)`:

      switchOn sw keys ; slabel sw 0 ; body₀ ; sjmp sw ; … ; slabel sw n ; default ; sjmp sw ; send sw

  The textual form (`Instr.toLine`) is exactly what `harness/pegx/irx.go.txt` prints for the Go file
  written by the real generator; the T-emit tie is a line-by-line comparison of the two.
-/
namespace PegVerif

inductive Instr where
  | save (n : Nat)                       -- positionN, tokenIndexN := position, tokenIndex
  | savePos (n : Nat)                    -- positionN := position
  | restore (n : Nat)                    -- position, tokenIndex = positionN, tokenIndexN
  | inc                                  -- position++
  | ifNeChr (c : Sym) (l : Nat)          -- if buffer[position] != 'c' { goto l }
  | ifNotRng (lo hi : Sym) (l : Nat)     -- if c := buffer[position]; c < 'lo' || c > 'hi' { goto l }
  | ifNotDot (l : Nat)                   -- if !matchDot() { goto l }
  | ifNotStr (s : List Sym) (l : Nat)    -- if !matchString("s") { goto l }
  | ifNotPred (code : String) (l : Nat)  -- if !(code) { goto l }
  | stmt (code : String)                 -- user statement: `!{…}`, or an inlined action under -noast
  | callIf (r : String) (l : Nat)        -- if !_rules[ruleR]() { goto l }
  | call (r : String)                    -- _rules[ruleR]()
  | goto (l : Nat)
  | label (l : Nat)
  | bb | be
  | switchOn (sw : Nat) (keys : List (List (Nat × Nat)))
  | slabel (sw i : Nat)
  | sjmp (sw : Nat)                      -- end of a case body (implicit in Go)
  | brk (sw : Nat)                       -- explicit `break`
  | send (sw : Nat)
  | add (rule : String) (n : Nat)        -- add(ruleR, positionN)
  | addHere (rule : String)              -- add(ruleR, position)
  | cap (n : Nat)                        -- -noast: begin := positionN; end := position; text = string(buffer[begin:end])
  | memoCheck (id : Nat)
  | memoSave (id : Nat) (n : Nat) (b : Bool)
  | retT | retF
deriving DecidableEq, Repr, Inhabited

abbrev Code := List Instr

/-- One slot of the `_rules` array literal: `none` = `nil,`. -/
structure RuleCode where
  name : String
  code : Option Code
deriving Repr, Inhabited

abbrev Program := List RuleCode

def Program.find (P : Program) (n : String) : Option Code :=
  match P.find? (fun r => r.name == n) with
  | some r => r.code
  | none => none

/-! ### Canonical text (shared with `irx`) -/

def jsonEscape (s : String) : String :=
  s.foldl (fun acc c =>
    if c == '"' then acc ++ "\\\"" else
    if c == '\\' then acc ++ "\\\\" else
    if c == '\n' then acc ++ "\\n" else
    if c == '\r' then acc ++ "\\r" else
    if c == '\t' then acc ++ "\\t" else
    if c.toNat == 8 then acc ++ "\\b" else
    if c.toNat == 12 then acc ++ "\\f" else
    if c.toNat < 0x20 then
      let h := (Nat.toDigits 16 c.toNat)
      acc ++ "\\u" ++ String.mk (List.replicate (4 - h.length) '0' ++ h)
    else acc.push c) ""

def jstr (s : String) : String := "\"" ++ jsonEscape s ++ "\""

def symsText (s : List Sym) : String :=
  "[" ++ ",".intercalate (s.map toString) ++ "]"

/-- Merge overlapping / adjacent ranges of an ascending range list (canonical form of case keys). -/
def mergeRanges : List (Nat × Nat) → List (Nat × Nat)
  | [] => []
  | r :: rs =>
    match mergeRanges rs with
    | [] => [r]
    | q :: qs => if q.1 ≤ r.2 + 1 then (r.1, max r.2 q.2) :: qs else r :: q :: qs

def rangesText (ks : List (Nat × Nat)) : String :=
  "[" ++ ",".intercalate ((mergeRanges ks).map (fun r => s!"{r.1}-{r.2}")) ++ "]"

def Instr.toLine : Instr → String
  | .save n => s!"save {n}"
  | .savePos n => s!"savePos {n}"
  | .restore n => s!"restore {n}"
  | .inc => "inc"
  | .ifNeChr c l => s!"ifNeChr {c} {l}"
  | .ifNotRng lo hi l => s!"ifNotRng {lo} {hi} {l}"
  | .ifNotDot l => s!"ifNotDot {l}"
  | .ifNotStr s l => s!"ifNotStr {symsText s} {l}"
  | .ifNotPred c l => s!"ifNotPred {jstr c} {l}"
  | .stmt c => s!"stmt {jstr c}"
  | .callIf r l => s!"callIf {r} {l}"
  | .call r => s!"call {r}"
  | .goto l => s!"goto {l}"
  | .label l => s!"label {l}"
  | .bb => "bb"
  | .be => "be"
  | .switchOn sw keys => s!"switchOn {sw} [{",".intercalate (keys.map rangesText)}]"
  | .slabel sw i => s!"slabel {sw} {i}"
  | .sjmp sw => s!"sjmp {sw}"
  | .brk sw => s!"brk {sw}"
  | .send sw => s!"send {sw}"
  | .add r n => s!"add {r} {n}"
  | .addHere r => s!"addHere {r}"
  | .cap n => s!"cap {n}"
  | .memoCheck id => s!"memoCheck {id}"
  | .memoSave id n b => s!"memoSave {id} {n} {b}"
  | .retT => "retT"
  | .retF => "retF"

end PegVerif
