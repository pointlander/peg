import PegVerif.Model.SwitchSafe
import PegVerif.Model.WellFormed
import PegVerif.Model.Checkers
import PegVerif.Model.SafeDef
/-
  Cheap versions of the decidable side conditions that `theoremApplies` (`AllOptionsDef.lean`)
  evaluates.  Only definitions live here (the file imports what `Exec/Driver.lean` imports already);
  `Proofs/FastCheck.lean` proves that every checker below EQUALS the checker the per-option theorems
  are stated with.

  Why the originals are slow.  They are written per rule, in the vocabulary of the proofs:
    * `GrammarOK` / `GrammarOKS` (`ruleOK`, `ruleOKS`) evaluate `rulesCount G r.name` for every rule
      and `hasFunc G n` — another `rulesCount G n` — for every reference in every body, and every
      `rulesCount` recomputes the reachability closure `reachedRules G` (itself quadratic);
    * `GrammarOKI` / `GrammarOKIS` (`ruleOKI`, `ruleOKIS`) evaluate `hasFuncI G n` for every rule and
      every reference left in an expanded body, and `hasFuncI` runs `compileAll` — dry and real
      pass, with `rulesCount` for every reference the expansion looks at.
  Here everything that does not depend on the rule is computed ONCE per call and shared by all rules
  (the `let`s are evaluated once: `rulesCountWith G (reachedRules G)` and `hasFuncOf (inlineFuncs …)`
  are partial applications whose arguments are evaluated when the closure is built):
    * the reached rules, from which the reference counts are folded (`rulesCountWith`, of
      `SafeDef.lean`);
    * the table "rule `n` gets a function": `hasFuncWith` without `-inline`, the one-pass table
      `inlineFuncs` (`SafeDef.lean`) with `-inline`;
    * the fuel of the expansion; the expanded body is computed once per rule that gets a function.
-/
namespace PegVerif
open Noast

/-- `hasFunc` (`-inline` off) with the reference counts as an argument, so that they can be shared. -/
def hasFuncWith (G : Grammar) (cnt : String → Nat) (n : String) : Bool :=
  match G.find n with
  | some r => !r.body.isNil && cnt r.name != 0
  | none => false

/-- `GrammarOK` (`Model/Checkers.lean`) with shared reachability closure and counts. -/
def GrammarOKfast (G : Grammar) : Bool :=
  let cnt : String → Nat := rulesCountWith G (reachedRules G)
  let d : String → Bool := hasFuncWith G cnt
  G.rules.all fun r => match G.find r.name with
    | some r' => r'.body.isNil || cnt r'.name == 0 || r'.body.okB d
    | none => true

/-- `GrammarOKS` (`Model/Checkers.lean`) with shared reachability closure and counts. -/
def GrammarOKSfast (G : Grammar) : Bool :=
  let cnt : String → Nat := rulesCountWith G (reachedRules G)
  let d : String → Bool := hasFuncWith G cnt
  G.rules.all fun r => match G.find r.name with
    | some r' => r'.body.isNil || cnt r'.name == 0 || r'.body.okS d
    | none => true

/-- `GrammarOKI` (`Model/Checkers.lean`) with shared reachability closure, counts, function
    table and fuel; only the rules that get a function are expanded. -/
def GrammarOKIfast (G : Grammar) : Bool :=
  let cnt : String → Nat := rulesCountWith G (reachedRules G)
  let d : String → Bool := hasFuncOf (inlineFuncs cnt G.rules true)
  let fuel := G.fuel
  G.rules.all fun r => match G.find r.name with
    | some r' => !d r'.name || (expandInline G cnt fuel r'.body).okB d
    | none => true

/-- `GrammarOKIS` (`Model/Checkers.lean`) with shared reachability closure, counts, function
    table and fuel; only the rules that get a function are expanded. -/
def GrammarOKISfast (G : Grammar) : Bool :=
  let cnt : String → Nat := rulesCountWith G (reachedRules G)
  let d : String → Bool := hasFuncOf (inlineFuncs cnt G.rules true)
  let fuel := G.fuel
  G.rules.all fun r => match G.find r.name with
    | some r' => !d r'.name || (expandInline G cnt fuel r'.body).okS d
    | none => true

/-! ### The packaged side conditions of the option sets, on the fast checkers -/

/-- `defaultParserOK`'s `GrammarOK` conjunct is `GrammarOKfast` (see `AllOptionsDef.lean`). -/
def defaultParserOKfast (G : Grammar) : Bool :=
  WFB G && GrammarOKfast G && LinkedOK G && G.rules.all (fun r => r.body.plain)

/-- `switchSafe` (`SafeDef.lean`) on `GrammarOKSfast`. -/
def switchSafeFast (G G' : Grammar) : Bool :=
  swOK G G' && GrammarOKSfast G' && LinkedOK G' && G'.rules.all (fun r => r.body.plainS)

/-- `inlineSwitchSafe` (`SafeDef.lean`) on `GrammarOKISfast`. -/
def inlineSwitchSafeFast (G G' : Grammar) : Bool :=
  swOK G G' && GrammarOKISfast G' && LinkedOK G' && G'.rules.all (fun r => r.body.plainS)

/-- `noastSwitchSafeK` (`SafeDef.lean`; `GrammarOKNS K G' = GrammarOKS G' && GrammarOKN K G'`)
    on `GrammarOKSfast`. -/
def noastSwitchSafeKfast (K : NKit) (G G' : Grammar) : Bool :=
  swOK G G' && (GrammarOKSfast G' && GrammarOKN K G') && G'.rules.all (fun r => r.body.plainS)

end PegVerif
