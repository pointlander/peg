import PegVerif.Model.WellFormed
import PegVerif.Model.Checkers
import PegVerif.Model.SafeDef
import PegVerif.Model.FastCheckDef
/-
  The kit `Kacts G` for `-noast` grammars WITH state-change statements, and the side conditions of
  the four `-noast` option sets instantiated with it.  Definitions only (importable by the driver);
  the facts are in `Proofs/Kacts.lean`.

  Under `-noast` both an action `{c}` and a state-change statement (`.stmt c`) append `(c, text)` to
  the machine's trace, but only actions are events of the semantics.  The refinement theorems
  (`RN`, `RNS`) therefore compare the part of the trace selected by `K.keep` and ask
  (`Expr.okN` / `Expr.okNB`) that every action code is kept and every statement code is not.  The
  kit `Kall G` keeps everything — no grammar with a statement passes `okNB (Kall G)`.  `Kacts G` keeps
  exactly the codes of the action rules of `G`: a grammar with statements passes as long as no
  statement's code coincides with the code of an action (such a statement is still rejected: the
  two trace entries could not be told apart).  The verdict theorems (`C07_verdict`,
  `implements_noast`, …) hold for any kit, so `theoremApplies` uses `Kacts`.
-/
namespace PegVerif
open Noast

/-- The codes of the action rules of a linked grammar (`ActionN <- ipush (act code) "ActionN"`), in
    the order of the rules. -/
def actionCodes (G : Grammar) : List String :=
  G.rules.filterMap fun r => match r.body with
    | .ipush (.act c) _ => some c
    | _ => none

/-- The kit that compares exactly the trace entries of actions: `codeOf` as in `Kall G`, `keep c` =
    "`c` is the code of some action rule of `G`" (the list is computed once per kit). -/
def Kacts (G : Grammar) : NKit :=
  let cs := actionCodes G
  ⟨actionCodeOf G, fun c => cs.contains c⟩

/-- n: the `-noast` fragment, statements allowed. -/
def noastSafeA (G : Grammar) : Bool := GrammarOKN (Kacts G) G

/-- in: `inlineNoastSafeK` (`SafeDef.lean`) for `Kacts G`. -/
def inlineNoastSafeA (G : Grammar) : Bool := inlineNoastSafeK (Kacts G) G

/-- sn: `noastSwitchSafeK` (`SafeDef.lean`; in its cheap form `noastSwitchSafeKfast`) for
    `Kacts G'`. -/
def noastSwitchSafeA (G G' : Grammar) : Bool := noastSwitchSafeKfast (Kacts G') G G'

/-- isn: `inlineNoastSwitchSafeK` (`SafeDef.lean`) for `Kacts G'`. -/
def inlineNoastSwitchSafeA (G G' : Grammar) : Bool := inlineNoastSwitchSafeK (Kacts G') G G'

end PegVerif
