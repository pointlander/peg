import PegVerif.Model.Syntax
/-
  Model of the analyses of `tree/peg.go` that decide *what* is emitted:

  * `countRules` (487-511)  → `reachedRules`, `rulesCount`: which rules are reachable from the first
    rule and how many references each has (`-inline` inlines a rule with exactly one, an
    unreached rule is emitted as `nil`).
  * `CheckAlwaysSucceeds` (264-312) → `alwaysSucceeds`: a call to such a rule is emitted without
    a failure branch.

  Recursion through rule references is bounded by a fuel argument (structural recursion on the
  fuel, so the definitions reduce in the kernel).  `countRules` is reformulated as "references
  in the bodies of the reachable rules"; the T-emit tie (nil slots, inlining) validates it.
-/
namespace PegVerif

mutual
  /-- Names referenced below a node, in the order `countRules` meets them (it descends into
      everything except `TypeRange`/terminals). -/
  def refsE : Expr → List String
    | .name n => [n]
    | .inl n _ => [n]
    | .seq es => refsL es
    | .alt es => refsL es
    | .ualt _ es => refsL es
    | .peekFor e => refsE e
    | .peekNot e => refsE e
    | .query e => refsE e
    | .star e => refsE e
    | .plus e => refsE e
    | .push e _ => refsE e
    | .ipush e _ => refsE e
    | _ => []
  def refsL : List Expr → List String
    | [] => []
    | e :: es => refsE e ++ refsL es
end

/-- One round of the reachability closure. -/
def reachStep (G : Grammar) (reached : List String) : List String :=
  reached.foldl (fun acc n =>
    match G.body n with
    | some b => (refsE b).foldl (fun acc m => if acc.contains m then acc else acc ++ [m]) acc
    | none => acc) reached

def iterN {α} (f : α → α) : Nat → α → α
  | 0, a => a
  | n + 1, a => iterN f n (f a)

/-- Rules reached by `countRules` from the first rule (`ruleReached`). -/
def reachedRules (G : Grammar) : List String :=
  match G.rules with
  | [] => []
  | r :: _ => iterN (reachStep G) G.rules.length [r.name]

/-- `t.rulesCount[name]` (0 = absent): one for the first rule, plus one per reference from the
    body of a reached rule. -/
def rulesCount (G : Grammar) (n : String) : Nat :=
  let reached := reachedRules G
  let first := match G.rules with | r :: _ => if r.name == n then 1 else 0 | [] => 0
  first + (reached.foldl (fun acc m =>
    match G.body m with
    | some b => acc + ((refsE b).filter (· == n)).length
    | none => acc) 0)

/-- `checkAlwaysSucceedsRecursion`; `vis` = rules whose `visited` flag is set. -/
def casF (G : Grammar) : Nat → List String → Expr → Bool
  | 0, _, _ => false
  | f + 1, vis, e =>
    match e with
    | .name n =>
      match G.body n with
      | none => false
      | some b => if vis.contains n then true else casF G f (n :: vis) b
    | .inl n _ =>   -- an inlined reference is still a TypeName node for this analysis
      match G.body n with
      | none => false
      | some b => if vis.contains n then true else casF G f (n :: vis) b
    | .alt es => es.any (casF G f vis)
    | .ualt _ _ => false   -- every case is `Sequence[&class, e]` and a lookahead never "always succeeds"
    | .seq es => es.all (casF G f vis)
    | .push e _ => casF G f vis e
    | .ipush e _ => casF G f vis e
    | .act _ => true
    | .query _ => true
    | .star _ => true
    | .nil => true
    | _ => false

mutual
  def Expr.depth : Expr → Nat
    | .inl _ e => e.depth + 1
    | .seq es => depthL es + 1
    | .alt es => depthL es + 1
    | .ualt _ es => depthL es + 1
    | .peekFor e => e.depth + 1
    | .peekNot e => e.depth + 1
    | .query e => e.depth + 1
    | .star e => e.depth + 1
    | .plus e => e.depth + 1
    | .push e _ => e.depth + 1
    | .ipush e _ => e.depth + 1
    | _ => 1
  def depthL : List Expr → Nat
    | [] => 0
    | e :: es => max e.depth (depthL es)
end

/-- Enough fuel for every analysis: each rule body can be entered at most once per path. -/
def Grammar.fuel (G : Grammar) : Nat :=
  G.rules.foldl (fun acc r => acc + r.body.depth + 1) 2

/-- `rule.CheckAlwaysSucceeds(t)` for the rule named `n`. -/
def alwaysSucceeds (G : Grammar) (n : String) : Bool :=
  match G.body n with
  | none => false
  | some b => casF G G.fuel [] b

end PegVerif
