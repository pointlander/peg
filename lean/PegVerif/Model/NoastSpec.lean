import PegVerif.Model.Sem
/-
  The specification of `-noast`: what is observable of the user code's execution, prescribed by a
  fold over the events of the derivation.  The refinement theorems that tie the machine to it are in
  `Proofs/RefineNoastDefs.lean` and the files that build on it.
-/
namespace PegVerif

namespace Noast

/-- What is observable of the user code's execution: the actions run so far (code, `text` at that
    moment) and the current `text`. -/
abbrev Obs := List (String × List Sym) × List Sym

/-- One event: a completed capture sets `text`; a completed action rule runs its code with the
    current `text`; completed ordinary rules do nothing. -/
def inlineStep (codeOf : String → Option String) (inp : List Sym) (acc : Obs) (t : Token) : Obs :=
  if t.rule = "PegText" then (acc.1, inp.extract t.b t.e)
  else
    match codeOf t.rule with
    | some code => (acc.1 ++ [(code, acc.2)], acc.2)
    | none => acc

/-- **Spec** of `-noast`: the actions run (with their `text`) and the final `text` after the
    events `evs`, starting with `text0`. -/
def reachTrace (codeOf : String → Option String) (inp : List Sym) (evs : List Token)
    (text0 : List Sym) : Obs :=
  evs.foldl (inlineStep codeOf inp) ([], text0)

end Noast

end PegVerif
