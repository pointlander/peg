import PegVerif.Model.Syntax
import PegVerif.Model.IR
import PegVerif.Model.Analysis
/-
  Model of the emission part of `(*Tree).Compile` (`tree/peg.go`): the recursive closure
  `compile` (1043-1270) and the per-rule loop of the real pass (1319-1374) / dry pass (1272-1295).

  * The label counter `label` and a switch counter are threaded (`CSt`).
  * `parentDetect` / `parentMultipleKey` are node fields in Go; every parent that propagates them
    assigns the child's fields immediately before compiling it and every other node keeps the
    initial `false`, so they are arguments `pd pmk` here.  They are handed to the node executed
    first by sequence, choice, `<…>`, implicit push, inlined name and `?`; `&e`, `!e`, `e*` and `e+`
    compile their operand with both flags false (the operand may run at a later position, or its
    failure is what the parent wants).  Under `pd` a `.` is `position++`; a character or a range
    elides its test only when the case has a single key (`pd && !pmk`).
  * `labels[n]` (was a jump to `ln` printed?) is read by `printLabel`.  It is filled by the dry
    pass; the real pass prints a subset of the dry pass's jumps, so it is the fixed function
    `env.used` here (see `compileAll`).
  * `-inline`: `compile` of a `TypeName` whose rule has exactly one reference compiles the rule's
    body in place.  That is the separate, fuel-bounded source transformation `expandInline`
    (`name n ↦ inl n body`); `compile (.inl n e)` just compiles `e`.
-/
namespace PegVerif

structure CEnv where
  ast : Bool
  dry : Bool
  used : Nat → Bool
  always : String → Bool

structure CSt where
  label : Nat
  sw : Nat
deriving Repr, Inhabited, DecidableEq

/-- `printLabel`: the label is printed only if some jump to it was printed. -/
def CEnv.lbl (env : CEnv) (n : Nat) : Code := if env.used n then [.label n] else []

/-- Result of compiling a node: code, new counters, and `labelLast` ("the last thing printed is
    a label", which makes the `-switch` emission add a `break`). -/
structure COut where
  code : Code
  st : CSt
  labelLast : Bool
deriving Repr, Inhabited

mutual
  def compile (env : CEnv) : Expr → (ko : Nat) → (pd pmk : Bool) → CSt → COut
    | .dot, ko, pd, _, st =>
      ⟨if pd then [.inc] else [.ifNotDot ko], st, false⟩
    | .name n, ko, _, _, st =>
      ⟨if env.always n then [.call n] else [.callIf n ko], st, false⟩
    | .inl _ e, ko, pd, pmk, st =>
      let r := compile env e ko pd pmk st
      ⟨r.code, r.st, false⟩
    | .rng lo hi, ko, pd, pmk, st =>
      ⟨if pd && !pmk then [.inc] else [.ifNotRng lo hi ko, .inc], st, false⟩
    | .chr c, ko, pd, pmk, st =>
      ⟨if pd && !pmk then [.inc] else [.ifNeChr c ko, .inc], st, false⟩
    | .str s, ko, _, _, st => ⟨[.ifNotStr s ko], st, false⟩
    | .pred c, ko, _, _, st => ⟨[.ifNotPred c ko], st, false⟩
    | .stmt c, _, _, _, st => ⟨[.stmt c], st, false⟩
    | .act _, _, _, _, st => ⟨[], st, false⟩
    | .nil, _, _, _, st => ⟨[], st, false⟩
    | .push e r, ko, pd, pmk, st =>
      let ok := st.label
      let st1 := { st with label := st.label + 1 }
      match e with
      | .act c => ⟨[.bb] ++ (if env.ast then [.addHere r] else [.stmt c]) ++ [.be], st1, false⟩
      | _ =>
        let b := compile env e ko pd pmk st1
        ⟨[.bb, .savePos ok] ++ b.code ++ (if !env.ast then [.cap ok] else [.add r ok]) ++ [.be],
          b.st, false⟩
    | .ipush e r, ko, pd, pmk, st =>
      let ok := st.label
      let st1 := { st with label := st.label + 1 }
      match e with
      | .act c => ⟨[.bb] ++ (if env.ast then [.addHere r] else [.stmt c]) ++ [.be], st1, false⟩
      | _ =>
        let b := compile env e ko pd pmk st1
        ⟨[.bb, .savePos ok] ++ b.code ++ [.add r ok] ++ [.be], b.st, false⟩
    | .alt es, ko, pd, pmk, st =>
      let ok := st.label
      let st1 := { st with label := st.label + 1 }
      let b := compileAlt env es ok ko pd pmk st1
      ⟨[.bb, .save ok] ++ b.code ++ [.be] ++ env.lbl ok, b.st, env.used ok⟩
    | .ualt ks es, ko, _, _, st =>
      let ok := st.label
      let sw := st.sw
      let st1 : CSt := { label := st.label + 1, sw := st.sw + 1 }
      let b := compileCases env ks es sw 0 ko st1
      ⟨[.bb, .switchOn sw (ks.take (es.length - 1))] ++ b.code ++ [.send sw, .be] ++ env.lbl ok,
        b.st, env.used ok⟩
    | .seq es, ko, pd, pmk, st => compileSeq env es ko pd pmk st
    | .peekFor e, ko, _, _, st =>
      let ok := st.label
      let b := compile env e ko false false { st with label := st.label + 1 }
      ⟨[.bb, .save ok] ++ b.code ++ [.restore ok, .be], b.st, false⟩
    | .peekNot e, ko, _, _, st =>
      let ok := st.label
      let b := compile env e ok false false { st with label := st.label + 1 }
      ⟨[.bb, .save ok] ++ b.code ++ [.goto ko] ++ env.lbl ok ++ [.restore ok, .be], b.st, false⟩
    | .query e, _, pd, pmk, st =>
      let qko := st.label
      let qok := st.label + 1
      let b := compile env e qko pd pmk { st with label := st.label + 2 }
      ⟨[.bb, .save qko] ++ b.code ++ [.goto qok] ++ env.lbl qko ++ [.restore qko, .be] ++ env.lbl qok,
        b.st, env.used qok⟩
    | .star e, _, _, _, st =>
      let again := st.label
      let out := st.label + 1
      let b := compile env e out false false { st with label := st.label + 2 }
      ⟨env.lbl again ++ [.bb, .save out] ++ b.code ++ [.goto again] ++ env.lbl out ++ [.restore out, .be],
        b.st, false⟩
    | .plus e, ko, _, _, st =>
      let again := st.label
      let out := st.label + 1
      let a := compile env e ko false false { st with label := st.label + 2 }
      let b := compile env e out false false a.st
      ⟨a.code ++ env.lbl again ++ [.bb, .save out] ++ b.code ++ [.goto again] ++ env.lbl out ++
          [.restore out, .be], b.st, false⟩
  /-- The elements of a `TypeSequence`: only the first inherits `pd`/`pmk`. -/
  def compileSeq (env : CEnv) : List Expr → (ko : Nat) → (pd pmk : Bool) → CSt → COut
    | [], _, _, _, st => ⟨[], st, false⟩
    | [e], ko, pd, pmk, st => compile env e ko pd pmk st
    | e :: es, ko, pd, pmk, st =>
      let a := compile env e ko pd pmk st
      let b := compileSeq env es ko false false a.st
      ⟨a.code ++ b.code, b.st, b.labelLast⟩
  /-- The alternatives of a `TypeAlternate` after `printSave(ok)`: all but the last jump to `ok`
      on success and fall to their own failure label, the last one fails to `ko`. -/
  def compileAlt (env : CEnv) : List Expr → (ok ko : Nat) → (pd pmk : Bool) → CSt → COut
    | [], _, _, _, _, st => ⟨[], st, false⟩
    | [e], _, ko, pd, pmk, st => compile env e ko pd pmk st
    | e :: es, ok, ko, pd, pmk, st =>
      let next := st.label
      let a := compile env e next pd pmk { st with label := st.label + 1 }
      let b := compileAlt env es ok ko false false a.st
      ⟨a.code ++ [.goto ok] ++ env.lbl next ++ [.restore ok] ++ b.code, b.st, b.labelLast⟩
  /-- The cases of a `TypeUnorderedAlternate`; the last element is the `default:` body. -/
  def compileCases (env : CEnv) : List KeySet → List Expr → (sw i : Nat) → (done : Nat) → CSt → COut
    | _, [], _, _, _, st => ⟨[], st, false⟩
    | _, [e], sw, i, done, st =>
      let b := compile env e done false false st
      ⟨[.slabel sw i] ++ b.code ++ (if b.labelLast then [.brk sw] else []) ++ [.sjmp sw], b.st, false⟩
    | ks, e :: es, sw, i, done, st =>
      let keys := ks.headD []
      let b := compile env e done true (decide (keys.card > 1)) st
      let r := compileCases env ks.tail es sw (i + 1) done b.st
      ⟨[.slabel sw i] ++ b.code ++ (if b.labelLast then [.brk sw] else []) ++ [.sjmp sw] ++ r.code,
        r.st, false⟩
end

/-! ### `-inline` as a source transformation -/

/-- Replace every reference to a rule that has exactly one reference by `inl n body`
    (`t.inline && t.rulesCount[name] == 1` in the `TypeName` case of `compile`). -/
def expandInline (G : Grammar) (cnt : String → Nat) : Nat → Expr → Expr
  | 0, e => e
  | f + 1, e =>
    match e with
    | .name n =>
      if cnt n == 1 then
        match G.body n with
        | some b => .inl n (expandInline G cnt f b)
        | none => .name n
      else .name n
    | .seq es => .seq (es.map (expandInline G cnt f))
    | .alt es => .alt (es.map (expandInline G cnt f))
    | .ualt ks es => .ualt ks (es.map (expandInline G cnt f))
    | .peekFor e => .peekFor (expandInline G cnt f e)
    | .peekNot e => .peekNot (expandInline G cnt f e)
    | .query e => .query (expandInline G cnt f e)
    | .star e => .star (expandInline G cnt f e)
    | .plus e => .plus (expandInline G cnt f e)
    | .push e r => .push (expandInline G cnt f e) r
    | .ipush e r => .ipush (expandInline G cnt f e) r
    | e => e

/-! ### The per-rule loops -/

structure Opts where
  inline : Bool := false
  switch : Bool := false
  ast : Bool := true
deriving Repr, Inhabited, DecidableEq

/-- Targets of the jumps a piece of code contains (`printJump` sets `labels[n]`). -/
def Instr.target? : Instr → Option Nat
  | .ifNeChr _ l | .ifNotRng _ _ l | .ifNotDot l | .ifNotStr _ l | .ifNotPred _ l
  | .callIf _ l | .goto l => some l
  | _ => none

def jumps (c : Code) : List Nat := c.filterMap Instr.target?

/-- What the emission loop does with one `TypeRule`. -/
inductive Slot where
  | undefinedNil      -- body is TypeNil: stub for an undefined name, or PegText (no label consumed)
  | unusedNil         -- not reached from the first rule (label consumed)
  | inlinedNil        -- inlined everywhere (label consumed)
  | func              -- a function is emitted
deriving Repr, DecidableEq, Inhabited

def slotOf (o : Opts) (cnt : String → Nat) (r : Rule) (ko : Nat) : Slot :=
  match r.body with
  | .nil => .undefinedNil
  | _ =>
    if cnt r.name == 0 then .unusedNil
    else if o.inline && cnt r.name == 1 && ko != 0 then .inlinedNil
    else .func

/-- The body of one emitted rule function (1352-1373). -/
def ruleFunc (env : CEnv) (r : Rule) (body : Expr) (ko : Nat) (st : CSt) : Code × CSt :=
  let b := compile env body ko false false st
  let c : Code :=
    (if env.ast then [.memoCheck r.id] else []) ++
    (if env.ast || env.used ko then [.save ko] else []) ++
    b.code ++
    (if env.ast then [.memoSave r.id ko true] else []) ++
    [.retT] ++
    (if env.used ko then
      [.label ko] ++ (if env.ast then [.memoSave r.id ko false] else []) ++ [.restore ko, .retF]
     else [])
  (c, b.st)

/-- One pass over all rules. -/
def compileRules (o : Opts) (env : CEnv) (cnt : String → Nat) (bodyOf : Rule → Expr) :
    List Rule → CSt → Program
  | [], _ => []
  | r :: rs, st =>
    match slotOf o cnt r st.label with
    | .undefinedNil => ⟨r.name, none⟩ :: compileRules o env cnt bodyOf rs st
    | .unusedNil | .inlinedNil =>
      ⟨r.name, none⟩ :: compileRules o env cnt bodyOf rs { st with label := st.label + 1 }
    | .func =>
      let (c, st') := ruleFunc env r (bodyOf r) st.label { st with label := st.label + 1 }
      ⟨r.name, some c⟩ :: compileRules o env cnt bodyOf rs st'

def Program.jumps (P : Program) : List Nat :=
  P.foldl (fun acc r => match r.code with | some c => acc ++ PegVerif.jumps c | none => acc) []

/-- Dry pass then real pass.  `G` is the grammar after `link` (and after the `-switch` rewrite). -/
def compileAll (o : Opts) (G : Grammar) : Program :=
  let cnt := rulesCount G
  let always := alwaysSucceeds G
  let bodyOf : Rule → Expr :=
    fun r => if o.inline then expandInline G cnt G.fuel r.body else r.body
  let dryEnv : CEnv := { ast := o.ast, dry := true, used := fun _ => false, always := always }
  let dry := compileRules o dryEnv cnt bodyOf G.rules ⟨0, 0⟩
  let dj := dry.jumps
  let env : CEnv := { ast := o.ast, dry := false, used := fun n => dj.contains n, always := always }
  compileRules o env cnt bodyOf G.rules ⟨0, 0⟩

end PegVerif
