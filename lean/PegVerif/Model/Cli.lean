/-
  C18 — model of the command-line program `/repo/main.go` (core Lean only, executable).

  `cli : Scenario → Outcome` follows `main` / `getIO` / `parse` and, of `(*Tree).Compile`
  (`tree/peg.go`), the duplicate-rule error of the first pass and the tail from
  `if t.Strict && t.werr != nil` to the end, statement by statement, over a FINITE abstract
  scenario type.  Everything the program does that is not decided
  by its own control flow (does `os.Open` succeed, does the front end accept the text, does a write
  succeed, does `Close` fail) is an oracle read off the scenario; the oracles are the only place
  where the abstract classes get their meaning, and `harness/cmd/clix` realises every class by
  concrete files / texts / devices and compares the real binary with this function line by line.

  Abstract classes and the concrete representatives that realise them (see clix):

  * `Source.fileOk`          regular readable file (relative / absolute, names with spaces, sub-dirs)
  * `Source.fileMissing`     ENOENT (no such file, no such parent dir), ENOTDIR (`file/x.peg`)
  * `Source.fileUnreadable`  EACCES: mode 0000 / 0200 file or 0000 parent dir with the binary run as
                             uid 65534 (root ignores mode bits); ELOOP (symlink loop) as root
  * `Source.fileIsDir`       a directory: `os.Open` SUCCEEDS, `io.ReadAll` fails with EISDIR — so the
                             destination has already been created/truncated
  * `Source.stdinNoArg`      no positional argument, text on standard input
  * `Source.stdinDash`       positional argument `-`, text on standard input
  * `Dest.default`           no `-output`: `<arg>.go` for a file argument, standard output otherwise
                             (the directory of `<arg>` is assumed writable)
  * `Dest.named`             `-output F`, F creatable (fresh, or stale file that gets truncated)
  * `Dest.namedMissingDir`   ENOENT on the parent
  * `Dest.namedNoPerm`       EACCES (0444 file / 0555 dir as uid 65534), EROFS (read-only mount),
                             EPERM (`chattr +i`) as root
  * `Dest.namedIsDir`        EISDIR
  * `Dest.namedFull`         `-output /dev/full` (or a symlink to it): open succeeds, every write fails
  * `Dest.stdoutDash`        `-output -`
  * `Dest.stdoutFull`        `-output -` with fd 1 = /dev/full (ENOSPC) or a read-only descriptor
                             (EBADF): every write to standard output fails
  * `Mode.plain`             none of the following
  * `Mode.dump`              `-print` and/or `-syntax` given (both dump to `os.Stdout`)
  * `Mode.closeFail`         every `(*os.File).Close` fails (realised with
                             `strace -e inject=close:error=EIO`); `closeAll` then panics
  * `Mode.version`           `-version` given
  The four modes are one dimension of the table (not three independent booleans): the combinations
  that are left out (-version together with a dump option, a dump option together with a failing
  Close, …) add nothing — `-version` returns before anything else is looked at — and every
  process run of the correspondence check costs milliseconds.
-/
namespace PegVerif.Cli

/-! ## Scenario -/

inductive Source where
  | fileOk | fileMissing | fileUnreadable | fileIsDir | stdinNoArg | stdinDash
deriving DecidableEq, Repr, Inhabited

inductive Grammar where
  | validSilent    -- accepted, no warning, generated text is Go
  | validWarn      -- accepted, `t.warn` called (unused rule / undefined name / left recursion)
  | syntaxError    -- `p.Parse()` returns an error
  | emptyText      -- no grammar at all (empty / blank / comment only): `p.Parse()` returns an error
  | duplicateRule  -- `Compile` returns "rule defined more than once" in its first pass
  | invalidGo      -- no warning, but `parser.ParseFile` rejects the generated text
deriving DecidableEq, Repr, Inhabited

inductive Dest where
  | default | named | namedMissingDir | namedNoPerm | namedIsDir | namedFull | stdoutDash | stdoutFull
deriving DecidableEq, Repr, Inhabited

inductive Mode where
  | plain | dump | closeFail | version
deriving DecidableEq, Repr, Inhabited

structure Scenario where
  source     : Source
  grammar    : Grammar
  dest       : Dest
  strict     : Bool
  inline     : Bool
  switch     : Bool
  noast      : Bool
  mode       : Mode
deriving DecidableEq, Repr, Inhabited

/-- `-print` / `-syntax` given -/
def Scenario.dump (s : Scenario) : Bool := s.mode == .dump
/-- `-version` given -/
def Scenario.version (s : Scenario) : Bool := s.mode == .version
/-- every `Close` fails -/
def Scenario.closeFails (s : Scenario) : Bool := s.mode == .closeFail

/-! ## Outcome -/

inductive DestKind where
  | defaultFile   -- `<arg>.go`
  | namedFile     -- the `-output` operand
  | stdout
deriving DecidableEq, Repr, Inhabited

inductive Written where
  | nothing          -- destination untouched (does not exist / stale content unchanged / no bytes on stdout)
  | truncatedEmpty   -- file exists with 0 bytes
  | rawInvalid       -- non-empty, not a Go file
  | complete         -- exactly the formatted generated parser
deriving DecidableEq, Repr, Inhabited

structure Outcome where
  exit           : Nat                -- 0, 1 (`log.Fatal`), 2 (panic)
  stderrNonEmpty : Bool
  written        : Written
  destination    : Option DestKind    -- the location that was touched (`none` iff `written = nothing`)
deriving DecidableEq, Repr, Inhabited

/-! ## Oracles: what the operating system / front end / go/parser answer in each class -/

/-- `flag.NArg() > 0 && flag.Arg(0) != "-"`. -/
def hasFileArg : Source → Bool
  | .fileOk | .fileMissing | .fileUnreadable | .fileIsDir => true
  | .stdinNoArg | .stdinDash => false

/-- `os.Open(flag.Arg(0))` succeeds (a directory can be opened). -/
def openSourceOk : Source → Bool
  | .fileMissing | .fileUnreadable => false
  | _ => true

/-- `io.ReadAll(in)` succeeds. -/
def readAllOk : Source → Bool
  | .fileIsDir => false
  | _ => true

/-- value of the variable `*outputFile` -/
inductive OutName where
  | empty | dash | named | argGo
deriving DecidableEq, Repr

/-- `*outputFile` right after `flag.Parse()`. -/
def flagOutput : Dest → OutName
  | .default => .empty
  | .stdoutDash | .stdoutFull => .dash
  | .named | .namedMissingDir | .namedNoPerm | .namedIsDir | .namedFull => .named

/-- what `os.OpenFile(name, O_RDWR|O_CREATE|O_TRUNC, 0o644)` gives -/
inductive OpenDest where
  | fails | regular | device
deriving DecidableEq, Repr

def openDest (d : Dest) : OutName → OpenDest
  | .argGo => .regular                 -- `<arg>.go`: assumed creatable
  | .named =>
    match d with
    | .named => .regular
    | .namedFull => .device
    | _ => .fails
  | _ => .fails                        -- never asked (guarded by the caller)

/-- `p.Parse()` returns nil. -/
def frontEndOk : Grammar → Bool
  | .syntaxError | .emptyText => false
  | _ => true

/-- outcome class of `Compile` before its tail -/
structure CompileClass where
  dup    : Bool   -- first pass returns "defined more than once"
  warned : Bool   -- `t.werr != nil` when the tail is reached
  goOk   : Bool   -- `parser.ParseFile` accepts the buffer
deriving DecidableEq, Repr

/-- `tree.New(inline, switch, noast)` + `Compile`: the class does not depend on the three options
    (the harness runs all eight combinations on every text). -/
def compileClass (g : Grammar) (_inline _switch _noast : Bool) : CompileClass :=
  match g with
  | .validSilent   => ⟨false, false, true⟩
  | .validWarn     => ⟨false, true,  true⟩
  | .duplicateRule => ⟨true,  false, true⟩
  | .invalidGo     => ⟨false, false, false⟩
  | .syntaxError | .emptyText => ⟨false, false, true⟩   -- never reached

/-! ## The world the program acts on -/

inductive Piece where
  | banner      -- "version: dev"
  | dump        -- -print / -syntax output
  | raw         -- unformatted generated text (`buffer.WriteTo(out)`)
  | formatted   -- `formatter.Fprint(out, …)`
deriving DecidableEq, Repr

/-- where `out` points -/
inductive Out where
  | stdout
  | file (k : DestKind) (regular : Bool)
deriving DecidableEq, Repr

structure World where
  stdout  : List Piece := []
  /-- the regular file created/truncated by `getIO`, with what has been written to it -/
  file    : Option (DestKind × List Piece) := none
  stderr  : Bool := false
deriving Repr

/-- writes to fd 1 fail -/
def stdoutBroken (s : Scenario) : Bool := s.dest == .stdoutFull

/-- `os.Stdout.Write` (used by `fmt.Println`, `p.Print()`, `p.PrintSyntaxTree()` and by `out`
    when `out = os.Stdout`); returns success. -/
def writeStdout (s : Scenario) (p : Piece) (w : World) : Bool × World :=
  if stdoutBroken s then (false, w) else (true, { w with stdout := w.stdout ++ [p] })

/-- `out.Write`. -/
def writeOut (s : Scenario) (o : Out) (p : Piece) (w : World) : Bool × World :=
  match o with
  | .stdout => writeStdout s p w
  | .file _ false => (false, w)                     -- /dev/full
  | .file _ true =>
    match w.file with
    | some (k, ps) => (true, { w with file := some (k, ps ++ [p]) })
    | none => (false, w)                            -- unreachable

inductive Result where
  | ok | err | panic
deriving DecidableEq, Repr

/-! ## `getIO` -/

inductive GetIO where
  | error                         -- `return nil, nil, nil, err`
  | panic                         -- `closeAll()` panicked inside `getIO`
  | ok (files : Nat) (out : Out)  -- `len(files)`, `out`
deriving Repr

/-- `closeAll()` panics: some file is open and `Close` fails. -/
def closeAllPanics (s : Scenario) (files : Nat) : Bool := s.closeFails && decide (files > 0)

/-- second `if` of `getIO`. -/
def getIO_out (s : Scenario) (files : Nat) (outputFile : OutName) : GetIO :=
  -- in, out = os.Stdin, os.Stdout
  if outputFile ≠ .empty ∧ outputFile ≠ .dash then
    match openDest s.dest outputFile with
    | .fails =>
      -- closeAll(); return nil, nil, nil, err
      if closeAllPanics s files then .panic else .error
    | .regular =>
      .ok (files + 1) (.file (if outputFile = .argGo then .defaultFile else .namedFile) true)
    | .device =>
      .ok (files + 1) (.file (if outputFile = .argGo then .defaultFile else .namedFile) false)
  else
    .ok files .stdout

def getIO (s : Scenario) : GetIO :=
  let outputFile := flagOutput s.dest
  if hasFileArg s.source then
    if !openSourceOk s.source then
      .error                                   -- files is empty, closeAll not called
    else
      -- files = append(files, f); in = f
      let outputFile := if outputFile = .empty then .argGo else outputFile
      getIO_out s 1 outputFile
  else
    getIO_out s 0 outputFile

/-! ## tail of `Compile` -/

def compile (s : Scenario) (o : Out) (w : World) : Result × World :=
  let c := compileClass s.grammar s.inline s.switch s.noast
  if c.dup then (.err, w) else
  -- if t.Strict && t.werr != nil { err = t.werr }
  let err := s.strict && c.warned
  -- if !t.Strict && t.werr != nil { fmt.Fprintln(os.Stderr, t.werr) }
  let w := if !s.strict && c.warned then { w with stderr := true } else w
  if err then (.err, w) else
  if !c.goOk then
    -- _, _ = buffer.WriteTo(out); return err
    let (_, w) := writeOut s o .raw w
    (.err, w)
  else
    -- err = formatter.Fprint(out, fileSet, code)
    let (ok, w) := writeOut s o .formatted w
    if !ok then
      let (_, w) := writeOut s o .raw w
      (.err, w)
    else (.ok, w)

/-! ## `parse` -/

/-- body of `parse` after `defer closeAll()`. -/
def parseBody (s : Scenario) (o : Out) (w : World) : Result × World :=
  if !readAllOk s.source then (.err, w) else
  if !frontEndOk s.grammar then (.err, w) else
  -- p.Execute(); then the closure given by main:
  -- `if out == os.Stdout { os.Stdout = os.Stderr … }`: when the parser goes to standard output the
  -- dumps of -print / -syntax go to standard error (write errors are ignored either way)
  let w := if s.dump then
      (match o with
       | .stdout => { w with stderr := true }
       | _ => (writeStdout s .dump w).2)
    else w
  compile s o w

def parse (s : Scenario) : Result × World :=
  match getIO s with
  | .error => (.err, {})
  | .panic => (.panic, {})
  | .ok files o =>
    -- O_CREATE|O_TRUNC took effect when the destination is a regular file
    let w : World :=
      match o with
      | .file k true => { file := some (k, []) }
      | _ => {}
    let (r, w) := parseBody s o w
    -- deferred closeAll()
    if closeAllPanics s files then (.panic, w) else (r, w)

/-! ## `main` and the observable outcome -/

def classifyFile : List Piece → Written
  | [] => .truncatedEmpty
  | [.formatted] => .complete
  | _ => .rawInvalid

def classifyStdout : List Piece → Written
  | [] => .nothing
  | [.banner] => .nothing          -- the version banner is not parser output
  | [.formatted] => .complete
  | _ => .rawInvalid

def observe (exit : Nat) (w : World) : Outcome :=
  match w.file with
  | some (k, ps) => ⟨exit, w.stderr, classifyFile ps, some k⟩
  | none =>
    let c := classifyStdout w.stdout
    ⟨exit, w.stderr, c, if c = .nothing then none else some .stdout⟩

def cli (s : Scenario) : Outcome :=
  if s.version then
    -- fmt.Println("version:", Version); return
    observe 0 (writeStdout s .banner {}).2
  else
    match parse s with
    | (.ok, w) => observe 0 w
    | (.err, w) => observe 1 { w with stderr := true }      -- log.Fatal(err)
    | (.panic, w) => observe 2 { w with stderr := true }    -- panic(err): trace on stderr, exit 2

/-! ## Specification-side vocabulary (used by Props/C18) -/

/-- the destination the user asked for -/
def requested (s : Scenario) : DestKind :=
  match s.dest with
  | .default => if hasFileArg s.source then .defaultFile else .stdout
  | .stdoutDash | .stdoutFull => .stdout
  | .named | .namedMissingDir | .namedNoPerm | .namedIsDir | .namedFull => .namedFile

/-- missing or unreadable grammar -/
def badSource (s : Scenario) : Bool :=
  s.source == .fileMissing || s.source == .fileUnreadable || s.source == .fileIsDir

/-- grammar syntax error -/
def syntaxBad (s : Scenario) : Bool :=
  s.grammar == .syntaxError || s.grammar == .emptyText

/-- unwritable destination -/
def badDest (s : Scenario) : Bool :=
  s.dest == .namedMissingDir || s.dest == .namedNoPerm || s.dest == .namedIsDir ||
  s.dest == .namedFull || s.dest == .stdoutFull

/-- some `*os.File` is open when `parse` returns (so a failing `Close` matters) -/
def opensFile (s : Scenario) : Bool :=
  hasFileArg s.source || flagOutput s.dest == .named

/-! ## The finite table -/

def Source.all : List Source := [.fileOk, .fileMissing, .fileUnreadable, .fileIsDir, .stdinNoArg, .stdinDash]
def Grammar.all : List Grammar := [.validSilent, .validWarn, .syntaxError, .emptyText, .duplicateRule, .invalidGo]
def Dest.all : List Dest :=
  [.default, .named, .namedMissingDir, .namedNoPerm, .namedIsDir, .namedFull, .stdoutDash, .stdoutFull]
def Mode.all : List Mode := [.plain, .dump, .closeFail, .version]
def bools : List Bool := [false, true]

def Scenario.all : List Scenario :=
  Source.all.flatMap fun a => Grammar.all.flatMap fun b => Dest.all.flatMap fun c =>
  bools.flatMap fun d => bools.flatMap fun e => bools.flatMap fun f => bools.flatMap fun g =>
  Mode.all.map fun h =>
    ⟨a, b, c, d, e, f, g, h⟩

/-! ## Canonical text (shared with `harness/cmd/clix`) -/

def b01 (b : Bool) : String := if b then "1" else "0"

def Source.enc : Source → String
  | .fileOk => "fileOk" | .fileMissing => "fileMissing" | .fileUnreadable => "fileUnreadable"
  | .fileIsDir => "fileIsDir" | .stdinNoArg => "stdinNoArg" | .stdinDash => "stdinDash"

def Grammar.enc : Grammar → String
  | .validSilent => "validSilent" | .validWarn => "validWarn" | .syntaxError => "syntaxError"
  | .emptyText => "emptyText" | .duplicateRule => "duplicateRule" | .invalidGo => "invalidGo"

def Dest.enc : Dest → String
  | .default => "default" | .named => "named" | .namedMissingDir => "namedMissingDir"
  | .namedNoPerm => "namedNoPerm" | .namedIsDir => "namedIsDir" | .namedFull => "namedFull"
  | .stdoutDash => "stdoutDash" | .stdoutFull => "stdoutFull"

def Mode.enc : Mode → String
  | .plain => "plain" | .dump => "dump" | .closeFail => "closeFail" | .version => "version"

def Scenario.enc (s : Scenario) : String :=
  s!"src={s.source.enc} gram={s.grammar.enc} dest={s.dest.enc} strict={b01 s.strict} inline={b01 s.inline} switch={b01 s.switch} noast={b01 s.noast} mode={s.mode.enc}"

def Written.enc : Written → String
  | .nothing => "nothing" | .truncatedEmpty => "truncatedEmpty"
  | .rawInvalid => "rawInvalid" | .complete => "complete"

def DestKind.enc : DestKind → String
  | .defaultFile => "defaultFile" | .namedFile => "namedFile" | .stdout => "stdout"

def Outcome.enc (o : Outcome) : String :=
  let d := match o.destination with | none => "none" | some k => k.enc
  s!"exit={o.exit} stderr={b01 o.stderrNonEmpty} written={o.written.enc} dest={d}"

def findEnc {α} (xs : List α) (enc : α → String) (t : String) : Option α :=
  xs.find? (fun x => enc x == t)

def parseBool : String → Option Bool
  | "0" => some false | "1" => some true | _ => none

/-- value of `key=` in a list of `key=value` words -/
def field (ws : List String) (key : String) : Option String :=
  ws.findSome? fun w =>
    if w.startsWith (key ++ "=") then some (w.drop (key.length + 1)).toString else none

def Scenario.dec (line : String) : Option Scenario := do
  let ws := (line.splitOn " ").filter (· ≠ "")
  let a ← findEnc Source.all Source.enc (← field ws "src")
  let b ← findEnc Grammar.all Grammar.enc (← field ws "gram")
  let c ← findEnc Dest.all Dest.enc (← field ws "dest")
  let d ← parseBool (← field ws "strict")
  let e ← parseBool (← field ws "inline")
  let f ← parseBool (← field ws "switch")
  let g ← parseBool (← field ws "noast")
  let h ← findEnc Mode.all Mode.enc (← field ws "mode")
  return ⟨a, b, c, d, e, f, g, h⟩

end PegVerif.Cli
