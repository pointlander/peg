/-
  Basic vocabulary shared by every model file (core Lean only — no Mathlib — so that the
  driver executable links).

  * `Sym`      : a rune.  Real input symbols are `< END = 0x110000`; `END` is the sentinel the
                 runtime appends to the rune buffer (`peg.go.tmpl`, `endSymbol`).
  * `Token`    : `token[U]{pegRule, begin, end}` of the runtime; the rule is kept by *name*
                 (`rul3s[t.pegRule]`), offsets are rune indices.
  * `TokTree`  : the derivation tree of a successful parse restricted to token-producing nodes
                 (rule applications, `<…>` captures, actions).  `postorder` is the order in which
                 the runtime records tokens.
-/
namespace PegVerif

notation "Sym" => Nat

/-- `endSymbol` of `tree/peg.go.tmpl` (`t.EndSymbol = 0x110000` in `tree/peg.go`). -/
def END : Sym := 0x110000

structure Token where
  rule : String
  b : Nat
  e : Nat
deriving DecidableEq, Repr, Inhabited

inductive TokTree where
  | node (t : Token) (kids : List TokTree)
deriving Repr, Inhabited

mutual
  /-- Tokens of a derivation tree in the order the runtime records them: children first
      (left to right), then the node itself. -/
  def TokTree.postorder : TokTree → List Token
    | .node t kids => postorderL kids ++ [t]
  def postorderL : List TokTree → List Token
    | [] => []
    | k :: ks => k.postorder ++ postorderL ks
end

def TokTree.tok : TokTree → Token
  | .node t _ => t
def TokTree.kids : TokTree → List TokTree
  | .node _ ks => ks

end PegVerif
