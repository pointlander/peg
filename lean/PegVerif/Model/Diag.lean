import PegVerif.Model.Link
import PegVerif.Model.Analysis
/-
  Model of the grammar diagnostics of `(*Tree).Compile` (`tree/peg.go`) and their specification
  (property C15).

  ## Part 1 — the code
  * `checkRec`   = `checkRecursion` (513-552), one `match` arm per `case` of the Go `switch`.
      - `ruleReached[id]` (set on entry of a `TypeRule`, cleared on exit) is the list `m` of the rules
        on the current path; it is passed *down* only, which is the same as set/clear around the call.
        The Go code indexes by rule id, the model by rule name: ids and names are in bijection as long
        as no two `TypeRule` nodes share a name (first pass rejects duplicates; `link` can only
        create a clash when a user rule or reference is literally called `Action<N>`).
      - the returned Bool is the Go result ("consumes"), the list the rules passed to `t.warn`, in
        order, with repetitions.
      - `TypeName` → `t.Rules[name]` → `TypeRule` case are fused (after `link` every name resolves).
      - recursion is structural on a fuel argument; `Grammar.diagFuel` is enough (proved:
        `Proofs/DiagLemmas.lean`, every theorem that needs it carries the budget invariant).
  * `countRec`   = `countRules` (487-511): depth-first marking from the first rule, `ruleReached` is
      never cleared.  The key set of `t.rulesCount` is the set of marked rules (the counter is
      incremented at the same place where the mark is tested), so only the marks are modelled.
  * `grammarDiags` = the calls of `t.warn` in `Compile`, in order: the `checkRecursion` closure
      (every `TypeRule` of the tree in order, appended rules included), then the emission loop at the
      end (`used but not defined` for a rule whose body is `TypeNil` if `t.referenced` has its name
      — `link` records there the name of every `TypeName` node, so the only rule with a `TypeNil`
      body that is skipped is the `PegText` of a grammar that captures and never refers to it —,
      `defined but not used` for any other rule without `rulesCount` entry).
      The two `wg.Go` closures share no data (`countRules` writes `t.rulesCount`, `checkRecursion`
      writes `t.werr`), so their interleaving is irrelevant.
  * `diagnostics` = first pass (duplicate → error, nothing else happens) + the above on the linked
      grammar + `if t.Strict && t.werr != nil { err = t.werr }`.

  ## Part 2 — the specification (independent of the code's traversal order and fuel)
  `Mentions`, `Refers`, `Reachable`, `UndefinedIn`, `MustConsume`, `SynConsume`, `FirstRefP`,
  `LStep`, `LeftRec`, `LeftRecW`.

  `LeftRec G r` := `r` is on a cycle of `LStep G` ("the body of `a` has a reference to `b` at a
  position that can be entered where `a` is entered"), where a sequence is cut after its first
  element that MUST consume.  "Must consume" is syntactic and conservative w.r.t. PEG semantics:
    * sound     : `MustConsume G e` ⇒ every successful match of `e` consumes ≥ 1 symbol (characters,
                  `.`, ranges consume; the rest is structural), so no real left recursion is hidden
                  behind a cut;
    * incomplete: `!'a' 'a' R`, `&{false} R`, `(!.)' R`, `('a' / !'a') R` … are treated as "may go
                  on without consuming" although they cannot (or the prefix always consumes), so a
                  reported rule need not loop on any input: the diagnostic says "possible".
    * a predicate `&{…}`, a state change `!{…}` and an action never consume; an undefined name (a
                  `nil` stub) never consumes.
  Semantically a left-recursive rule `r` makes every parse that enters `r` at some position
  re-enter `r` at the same position along SOME evaluation path; whether that path is taken depends
  on the input.
-/
namespace PegVerif

/-! ## Part 1: the code -/

/-- `TypeSequence`: `slices.ContainsFunc(elements, checkRecursion)` — stops at the first element
    that consumes. -/
def seqRun (g : Expr → Bool × List String) : List Expr → Bool × List String
  | [] => (false, [])
  | e :: es =>
    let r := g e
    if r.1 then (true, r.2)
    else
      let r' := seqRun g es
      (r'.1, r.2 ++ r'.2)

/-- `TypeAlternate`: every alternative is visited; consumes iff all do. -/
def altRun (g : Expr → Bool × List String) : List Expr → Bool × List String
  | [] => (true, [])
  | e :: es =>
    let r := g e
    let r' := altRun g es
    (r.1 && r'.1, r.2 ++ r'.2)

/-- `checkRecursion(n, ruleReached)`; `m` = names of the rules whose `ruleReached` flag is set. -/
def checkRec (G : Grammar) : Nat → List String → Expr → Bool × List String
  | 0, _, _ => (false, [])
  | f + 1, m, e =>
    match e with
    | .name n =>          -- TypeName: checkRecursion(t.Rules[name]); then case TypeRule
      match G.find n with
      | none => (false, [])       -- cannot happen after `link` (Go would dereference nil)
      | some r =>
        if m.contains n then (false, [n])      -- t.warn(...); return false
        else checkRec G f (n :: m) r.body     -- set flag, recurse into Front(), clear flag
    | .inl n _ =>         -- a TypeName node (only exists under -inline, after this analysis)
      match G.find n with
      | none => (false, [])
      | some r =>
        if m.contains n then (false, [n])
        else checkRec G f (n :: m) r.body
    | .alt es => altRun (checkRec G f m) es
    | .seq es => seqRun (checkRec G f m) es
    | .peekFor e => (false, (checkRec G f m e).2)
    | .peekNot e => (false, (checkRec G f m e).2)
    | .query e => (false, (checkRec G f m e).2)
    | .star e => (false, (checkRec G f m e).2)
    | .plus e => checkRec G f m e
    | .push e _ => checkRec G f m e
    | .ipush e _ => checkRec G f m e
    | .chr _ => (true, [])             -- len(n.String()) > 0: a TypeCharacter holds exactly one rune
    | .str s => (!s.isEmpty, [])       -- len(n.String()) > 0
    | .dot => (true, [])
    | .rng _ _ => (true, [])
    -- TypeUnorderedAlternate, TypePredicate, TypeStateChange, TypeAction, TypeNil: `return false`
    | .ualt _ _ => (false, [])
    | .pred _ => (false, [])
    | .stmt _ => (false, [])
    | .act _ => (false, [])
    | .nil => (false, [])

/-- `countRules(n, ruleReached)`; `rs` = names of the rules whose flag is set (never cleared). -/
def countRec (G : Grammar) : Nat → Expr → List String → List String
  | 0, _, rs => rs
  | f + 1, e, rs =>
    match e with
    | .name n =>
      match G.find n with
      | none => rs
      | some r => if rs.contains n then rs else countRec G f r.body (n :: rs)
    | .inl n _ =>
      match G.find n with
      | none => rs
      | some r => if rs.contains n then rs else countRec G f r.body (n :: rs)
    | .seq es => es.foldl (fun acc x => countRec G f x acc) rs
    | .alt es => es.foldl (fun acc x => countRec G f x acc) rs
    | .ualt _ es => es.foldl (fun acc x => countRec G f x acc) rs
    | .peekFor e => countRec G f e rs
    | .peekNot e => countRec G f e rs
    | .query e => countRec G f e rs
    | .star e => countRec G f e rs
    | .plus e => countRec G f e rs
    | .push e _ => countRec G f e rs
    | .ipush e _ => countRec G f e rs
    | _ => rs

/-- Fuel still needed below a path/mark set `m`: every rule not in `m` can be entered once more. -/
def budget : List Rule → List String → Nat
  | [], _ => 0
  | r :: rs, m => (if m.contains r.name then 0 else r.body.depth + 1) + budget rs m

/-- Enough fuel for both analyses (nesting depth ≤ Σ over rules of (depth of body + 1)). -/
def Grammar.diagFuel (G : Grammar) : Nat := budget G.rules []

/-- Warnings of the `checkRecursion` closure: run from every rule of the tree, in order, with all
    flags clear. -/
def recWarningsOf (G : Grammar) (r : Rule) : List String :=
  (checkRec G G.diagFuel [r.name] r.body).2

def recWarnings (G : Grammar) : List String := G.rules.flatMap (recWarningsOf G)

/-- Rules marked by the `countRules` closure (= keys of `t.rulesCount`): run from the first rule. -/
def reachedNames (G : Grammar) : List String :=
  match G.rules with
  | [] => []
  | r :: _ => countRec G G.diagFuel r.body [r.name]

/-- One diagnostic (argument of `t.warn`). -/
inductive Diag where
  | leftRec (rule : String)
  | undefinedRule (rule : String)
  | unusedRule (rule : String)
deriving DecidableEq, Repr, Inhabited

/-- The text passed to `t.warn`. -/
def Diag.render : Diag → String
  | .leftRec n => "possible infinite left recursion in rule '" ++ n ++ "'"
  | .undefinedRule n => "rule '" ++ n ++ "' used but not defined"
  | .unusedRule n => "rule '" ++ n ++ "' defined but not used"

/-- Emission loop, one `TypeRule` element; `referenced` = keys of `t.referenced`. -/
def emitDiag (referenced reached : List String) (r : Rule) : Option Diag :=
  match r.body with
  | .nil => if referenced.contains r.name then some (.undefinedRule r.name) else none
  | _ => if reached.contains r.name then none else some (.unusedRule r.name)

/-- All calls of `t.warn` for a linked grammar, in order; `referenced` = keys of `t.referenced`. -/
def grammarDiags (G : Grammar) (referenced : List String) : List Diag :=
  (recWarnings G).map .leftRec ++ G.rules.filterMap (emitDiag referenced (reachedNames G))

structure DiagResult where
  dupError : Option String      -- error returned by the first pass; nothing else happens then
  diags : List Diag             -- the `t.warn` calls in order
  strictFails : Bool            -- Compile returns a non-nil error when `t.Strict`
deriving Repr, Inhabited

/-- What `Compile` reports for the rules the front end built. -/
def diagnostics (rules : List Rule) : DiagResult :=
  let L := linkGrammar rules
  match L.dup with
  | some n => { dupError := some ("rule '" ++ n ++ "' defined more than once"), diags := [], strictFails := true }
  | none =>
    let ds := grammarDiags L.G L.referenced
    { dupError := none, diags := ds, strictFails := !ds.isEmpty }

/-- The warning lines (without the `warning: ` prefix `t.warn` adds), in order. -/
def DiagResult.warnings (d : DiagResult) : List String := d.diags.map Diag.render

/-- `t.werr.Error()`: what is printed on stderr (not strict) or returned (strict). -/
def DiagResult.werr (d : DiagResult) : String :=
  "\n".intercalate (d.warnings.map (fun w => "warning: " ++ w))

/-- The error `Compile` returns because of diagnostics (`none`: generation goes on). -/
def DiagResult.error (d : DiagResult) (strict : Bool) : Option String :=
  match d.dupError with
  | some e => some e
  | none => if strict && !d.diags.isEmpty then some d.werr else none

/-! ## Part 2: the specification -/

section Closure
variable {α : Type}
/-- reflexive-transitive closure -/
inductive Star (R : α → α → Prop) : α → α → Prop where
  | refl (a : α) : Star R a a
  | step {a b c : α} : R a b → Star R b c → Star R a c
/-- transitive closure -/
inductive Plus (R : α → α → Prop) : α → α → Prop where
  | single {a b : α} : R a b → Plus R a b
  | step {a b c : α} : R a b → Plus R b c → Plus R a c
end Closure

/-- "the expression mentions rule `n`" (anywhere: under any operator, at any position). -/
inductive Mentions : Expr → String → Prop where
  | name (n : String) : Mentions (.name n) n
  | inl (n : String) (b : Expr) : Mentions (.inl n b) n
  | seq {es : List Expr} {e : Expr} {n : String} : e ∈ es → Mentions e n → Mentions (.seq es) n
  | alt {es : List Expr} {e : Expr} {n : String} : e ∈ es → Mentions e n → Mentions (.alt es) n
  | ualt {ks : List KeySet} {es : List Expr} {e : Expr} {n : String} :
      e ∈ es → Mentions e n → Mentions (.ualt ks es) n
  | peekFor {e : Expr} {n : String} : Mentions e n → Mentions (.peekFor e) n
  | peekNot {e : Expr} {n : String} : Mentions e n → Mentions (.peekNot e) n
  | query {e : Expr} {n : String} : Mentions e n → Mentions (.query e) n
  | star {e : Expr} {n : String} : Mentions e n → Mentions (.star e) n
  | plus {e : Expr} {n : String} : Mentions e n → Mentions (.plus e) n
  | push {e : Expr} {r n : String} : Mentions e n → Mentions (.push e r) n
  | ipush {e : Expr} {r n : String} : Mentions e n → Mentions (.ipush e r) n

/-- rule `a` is defined and its body mentions `b`. -/
def Refers (G : Grammar) (a b : String) : Prop := ∃ r, G.find a = some r ∧ Mentions r.body b

/-- `r` is reachable from `first` (reflexive-transitive closure of "body mentions"). -/
def Reachable (G : Grammar) (first r : String) : Prop := Star (Refers G) first r

/-- `n` is referenced by some rule of the (front-end) grammar and no rule is called `n`. -/
def UndefinedIn (rules : List Rule) (n : String) : Prop :=
  (∃ r ∈ rules, Mentions r.body n) ∧ ∀ r ∈ rules, r.name ≠ n

/-- **must consume** — the code's notion, as a least fixed point (no traversal, no cycle cut):
    an expression that, whenever it succeeds, has consumed at least one symbol *for syntactic
    reasons*.  A character, `.`, a range, a non-empty string; a sequence if some element does; a
    choice if every alternative does; a reference if the body of its rule does; `e+`, `<e>` and the
    rule wrapper if `e` does.  Never: `e?`, `e*`, `&e`, `!e`, predicates, actions, the empty
    expression, an undefined name, a `-switch` node.
    (Least fixed point = the cycle cut: a derivation of minimal height never needs a rule to
    justify itself.) -/
inductive MustConsume (G : Grammar) : Expr → Prop where
  | dot : MustConsume G .dot
  | chr (c : Sym) : MustConsume G (.chr c)
  | rng (lo hi : Sym) : MustConsume G (.rng lo hi)
  | str {s : List Sym} : s ≠ [] → MustConsume G (.str s)
  | seq {es : List Expr} {e : Expr} : e ∈ es → MustConsume G e → MustConsume G (.seq es)
  | alt {es : List Expr} : (∀ e, e ∈ es → MustConsume G e) → MustConsume G (.alt es)
  | name {n : String} {r : Rule} : G.find n = some r → MustConsume G r.body → MustConsume G (.name n)
  | inl {n : String} {b : Expr} {r : Rule} : G.find n = some r → MustConsume G r.body → MustConsume G (.inl n b)
  | plus {e : Expr} : MustConsume G e → MustConsume G (.plus e)
  | push {e : Expr} {r : String} : MustConsume G e → MustConsume G (.push e r)
  | ipush {e : Expr} {r : String} : MustConsume G e → MustConsume G (.ipush e r)

/-- must consume for reasons visible without following any reference (a reference never counts). -/
inductive SynConsume : Expr → Prop where
  | dot : SynConsume .dot
  | chr (c : Sym) : SynConsume (.chr c)
  | rng (lo hi : Sym) : SynConsume (.rng lo hi)
  | str {s : List Sym} : s ≠ [] → SynConsume (.str s)
  | seq {es : List Expr} {e : Expr} : e ∈ es → SynConsume e → SynConsume (.seq es)
  | alt {es : List Expr} : (∀ e, e ∈ es → SynConsume e) → SynConsume (.alt es)
  | plus {e : Expr} : SynConsume e → SynConsume (.plus e)
  | push {e : Expr} {r : String} : SynConsume e → SynConsume (.push e r)
  | ipush {e : Expr} {r : String} : SynConsume e → SynConsume (.ipush e r)

/-- `FirstRefP C e n`: the reference `n` occurs in `e` at a place that can be entered at the
    position where `e` is entered, `C` being the notion of "must consume" that ends a sequence:
    the reference itself; anything inside `&e !e e? e* e+ <e>`; every alternative of a choice; the
    elements of a sequence up to and including the first one that must consume. -/
inductive FirstRefP (C : Expr → Prop) : Expr → String → Prop where
  | name (n : String) : FirstRefP C (.name n) n
  | inl (n : String) (b : Expr) : FirstRefP C (.inl n b) n
  | seq {pre post : List Expr} {e : Expr} {n : String} :
      (∀ p, p ∈ pre → ¬ C p) → FirstRefP C e n → FirstRefP C (.seq (pre ++ e :: post)) n
  | alt {es : List Expr} {e : Expr} {n : String} : e ∈ es → FirstRefP C e n → FirstRefP C (.alt es) n
  | peekFor {e : Expr} {n : String} : FirstRefP C e n → FirstRefP C (.peekFor e) n
  | peekNot {e : Expr} {n : String} : FirstRefP C e n → FirstRefP C (.peekNot e) n
  | query {e : Expr} {n : String} : FirstRefP C e n → FirstRefP C (.query e) n
  | star {e : Expr} {n : String} : FirstRefP C e n → FirstRefP C (.star e) n
  | plus {e : Expr} {n : String} : FirstRefP C e n → FirstRefP C (.plus e) n
  | push {e : Expr} {r n : String} : FirstRefP C e n → FirstRefP C (.push e r) n
  | ipush {e : Expr} {r n : String} : FirstRefP C e n → FirstRefP C (.ipush e r) n

/-- `firstRefs` of the property text. -/
abbrev FirstRef (G : Grammar) : Expr → String → Prop := FirstRefP (MustConsume G)
/-- the coarser variant: only syntactically consuming elements end a sequence. -/
abbrev FirstRefW : Expr → String → Prop := FirstRefP SynConsume

/-- rule `a` can call rule `b` without having consumed input. -/
def LStep (G : Grammar) (a b : String) : Prop := ∃ r, G.find a = some r ∧ FirstRef G r.body b
def LStepW (G : Grammar) (a b : String) : Prop := ∃ r, G.find a = some r ∧ FirstRefW r.body b

/-- **left recursion**: `r` can re-enter itself without having consumed input. -/
def LeftRec (G : Grammar) (r : String) : Prop := Plus (LStep G) r r
/-- upper bound: the same with the coarser `FirstRefW`. -/
def LeftRecW (G : Grammar) (r : String) : Prop := Plus (LStepW G) r r

/-! ## Side conditions used by the theorems (all decidable or per-name) -/

/-- no two `TypeRule` nodes share a name (so every rule is the one `t.Rules` maps its name to, and
    rule ids and rule names are in bijection).  For a linked grammar this holds whenever the first
    pass found no duplicate and no user rule / reference is literally called `Action<k>`. -/
def Grammar.Uniq (G : Grammar) : Prop := (G.rules.map (·.name)).Nodup

instance (G : Grammar) : Decidable G.Uniq := by unfold Grammar.Uniq; infer_instance

/-- names `link` gives to the rules it creates for actions -/
def isAct (n : String) : Prop := ∃ k : Nat, n = s!"Action{k}"

mutual
  /-- the expression has no `inl` node (those exist only after the `-inline` expansion, which
      runs after `link`; the front end never builds one) -/
  def noInlE : Expr → Bool
    | .inl _ _ => false
    | .push e _ => noInlE e
    | .ipush e _ => noInlE e
    | .seq es => noInlL es
    | .alt es => noInlL es
    | .ualt _ es => noInlL es
    | .peekFor e => noInlE e
    | .peekNot e => noInlE e
    | .query e => noInlE e
    | .star e => noInlE e
    | .plus e => noInlE e
    | _ => true
  def noInlL : List Expr → Bool
    | [] => true
    | e :: es => noInlE e && noInlL es
end

/-- the rules as the front end builds them -/
def FrontRules (rules : List Rule) : Prop := ∀ r, r ∈ rules → noInlE r.body = true

end PegVerif
