import PegVerif.Model.Sem
import PegVerif.Model.Analysis
import PegVerif.Model.Compile
import PegVerif.Model.NoastSpec
/-
  The decidable side conditions of the theorems about the emitted parser, as definitions only: the
  generator's driver evaluates them, and the proof files that establish what they guarantee import
  them from here.  Each group names the file with its theorems.
-/
namespace PegVerif

/-! ### `-switch`: the elided terminal tests are justified by the case keys

  The predicate these decide (`Lead`) and their soundness are in `Proofs/LeadLemmas.lean`. -/

/-- Every code point of `K` lies in `[lo, hi]` (empty ranges of `K` ignored). -/
def keysWithin (K : KeySet) (lo hi : Nat) : Bool :=
  K.all (fun r => decide (r.2 < r.1) || (decide (lo ≤ r.1) && decide (r.2 ≤ hi)))

/-- Every code point of `K` is below the end symbol (empty ranges of `K` ignored): a position whose
    symbol is in `K` is inside the input. -/
def keysBelowEnd (K : KeySet) : Bool :=
  K.all (fun r => decide (r.2 < r.1) || decide (r.2 < END))

mutual
  /-- The symbols of `K` pass every test that `compile env e ko pd pmk` elides. -/
  def leadOK (K : KeySet) (pd pmk : Bool) : Expr → Bool
    | .chr c => !pd || pmk || keysWithin K c c
    | .rng lo hi => !pd || pmk || keysWithin K lo hi
    | .dot => !pd || keysBelowEnd K
    | .star _ => true
    | .inl _ e => leadOK K pd pmk e
    | .push e _ => leadOK K pd pmk e
    | .ipush e _ => leadOK K pd pmk e
    | .peekFor _ => true
    | .peekNot _ => true
    | .query e => leadOK K pd pmk e
    | .seq es => leadOKL K pd pmk es
    | .alt es => leadOKL K pd pmk es
    | .str _ => true
    | .name _ => true
    | .pred _ => true
    | .stmt _ => true
    | .act _ => true
    | .ualt _ _ => true
    | .plus _ => true
    | .nil => true
  def leadOKL (K : KeySet) (pd pmk : Bool) : List Expr → Bool
    | [] => true
    | e :: _ => leadOK K pd pmk e
end

/-- The cases of a `TypeUnorderedAlternate`, walked the way `compileCases` walks them: every case
    but the last (the `default:`) has a key set, and its body passes `leadOK` for that key set with
    `parentDetect = true`, `parentMultipleKey = (more than one key)`. -/
def casesLeadOK : List KeySet → List Expr → Bool
  | _, [] => true
  | _, [_] => true
  | [], _ :: _ :: _ => false
  | K :: ks, e :: e' :: es => leadOK K true (decide (K.card > 1)) e && casesLeadOK ks (e' :: es)

/-! ### The fragment of the refinement theorem, AST mode, `-inline` off (`Proofs/WorldLemmas.lean`) -/

def Expr.isNil : Expr → Bool
  | .nil => true
  | _ => false

/-- "The rule named `n` gets a function" (`-inline` off): the first rule with that name has a
    body other than `nil` and is referenced from a rule reached from the first rule. -/
def hasFunc (G : Grammar) (n : String) : Bool :=
  match G.find n with
  | some r => !r.body.isNil && rulesCount G r.name != 0
  | none => false

mutual
  /-- The decidable version of `Expr.fine`; `d n` = "rule `n` gets a function". -/
  def Expr.okB (d : String → Bool) : Expr → Bool
    | .chr c => c != END
    | .rng _ hi => decide (hi < END)
    | .str _ => false
    | .name n => d n
    | .inl _ e => e.okB d
    | .seq es => okBL d es
    | .alt es => okBL d es
    | .ualt _ _ => false
    | .peekFor e => e.okB d
    | .peekNot e => e.okB d
    | .query e => e.okB d
    | .star e => e.okB d
    | .plus e => e.okB d
    | .push e _ => e.okB d
    | .ipush e _ => e.okB d
    | _ => true
  def okBL (d : String → Bool) : List Expr → Bool
    | [] => true
    | e :: es => e.okB d && okBL d es
end

/-- A rule is fine if it gets no function, or its body is in the fragment of `Expr.fine` and only
    references rules that get a function. -/
def ruleOK (G : Grammar) (r : Rule) : Bool :=
  r.body.isNil || rulesCount G r.name == 0 || r.body.okB (hasFunc G)

/-- The condition on the (linked) input grammar: every rule that `t.Rules[name]` can return (the
    first of its name) is `ruleOK`.  Rule names need not be distinct and no particular shape of the
    bodies (`ipush`) is required. -/
def GrammarOK (G : Grammar) : Bool :=
  G.rules.all fun r => match G.find r.name with
    | some r' => ruleOK G r'
    | none => true

/-- `bodyOf` of `compileAll`. -/
def bodyOf (o : Opts) (G : Grammar) : Rule → Expr :=
  fun r => if o.inline then expandInline G (rulesCount G) G.fuel r.body else r.body

/-- A rule body is what the first pass and `link` leave: the rule's implicit push, or `nil` for a
    stub (undefined name, `PegText`). -/
def Rule.shaped (r : Rule) : Bool :=
  match r.body with
  | .nil => true
  | .ipush _ nm => nm == r.name
  | _ => false

/-- Shape of a linked grammar: implicit-push bodies and pairwise distinct rule ids (memo keys). -/
def LinkedOK (G : Grammar) : Bool :=
  G.rules.all Rule.shaped && decide ((G.rules.map (·.id)).Nodup)

/-! ### … with `-switch` nodes (`Proofs/WorldSwitch.lean`) -/

mutual
  /-- The decidable version of `Expr.fineS`; `d n` = "rule `n` gets a function". -/
  def Expr.okS (d : String → Bool) : Expr → Bool
    | .chr c => c != END
    | .rng _ hi => decide (hi < END)
    | .str _ => false
    | .name n => d n
    | .inl _ e => e.okS d
    | .seq es => okSL d es
    | .alt es => okSL d es
    | .ualt ks es => !es.isEmpty && okSL d es && casesLeadOK ks es
    | .peekFor e => e.okS d
    | .peekNot e => e.okS d
    | .query e => e.okS d
    | .star e => e.okS d
    | .plus e => e.okS d
    | .push e _ => e.okS d
    | .ipush e _ => e.okS d
    | _ => true
  def okSL (d : String → Bool) : List Expr → Bool
    | [] => true
    | e :: es => e.okS d && okSL d es
end

/-- A rule is fine if it gets no function, or its body is in the fragment of `Expr.fineS` and only
    references rules that get a function. -/
def ruleOKS (G : Grammar) (r : Rule) : Bool :=
  r.body.isNil || rulesCount G r.name == 0 || r.body.okS (hasFunc G)

/-- The condition on the linked and `-switch`-rewritten grammar: every rule that `t.Rules[name]`
    can return (the first of its name) is `ruleOKS`. -/
def GrammarOKS (G : Grammar) : Bool :=
  G.rules.all fun r => match G.find r.name with
    | some r' => ruleOKS G r'
    | none => true

/-! ### `-noast` (`Proofs/RefineNoastDefs.lean`, `Proofs/WorldNoast.lean`, `Proofs/WorldNoastS.lean`) -/

/-- The parameters of the statement: which rules are action rules (and their code), and which
    entries of the machine's trace are compared (`keep`; all of them when the grammar has no
    `!{…}` statements, see `Expr.okN`). -/
structure NKit where
  codeOf : String → Option String
  keep : String → Bool

/-- The action rules of a linked grammar: `ActionN <- ipush (act code) "ActionN"`. -/
def actionCodeOf (G : Grammar) (r : String) : Option String :=
  match G.body r with
  | some (.ipush (.act code) _) => some code
  | _ => none

/-- The kit for grammars without state-change statements: every trace entry is compared. -/
def Kall (G : Grammar) : NKit := ⟨actionCodeOf G, fun _ => true⟩

mutual
  def Expr.okNB (K : NKit) : Expr → Bool
    | .inl _ e => e.okNB K
    | .stmt c => !K.keep c
    | .seq es => okNLB K es
    | .alt es => okNLB K es
    | .ualt _ es => okNLB K es
    | .peekFor e => e.okNB K
    | .peekNot e => e.okNB K
    | .query e => e.okNB K
    | .star e => e.okNB K
    | .plus e => e.okNB K
    | .push e r => r == "PegText" && !e.isAct && e.okNB K
    | .ipush e r => r != "PegText" &&
        (match e with
         | .act c => K.codeOf r == some c && K.keep c
         | _ => K.codeOf r == none) && e.okNB K
    | _ => true
  def okNLB (K : NKit) : List Expr → Bool
    | [] => true
    | e :: es => e.okNB K && okNLB K es
end

/-- Every rule body is in the `-noast` fragment (decidable). -/
def GrammarOKN (K : NKit) (G : Grammar) : Bool := G.rules.all (fun r => r.body.okNB K)

/-- The decidable condition on the linked and `-switch`-rewritten grammar for `-noast -switch`. -/
def GrammarOKNS (K : NKit) (G : Grammar) : Bool := GrammarOKS G && GrammarOKN K G

/-! ### `-inline` (`Proofs/InlineLemmas.lean`, `Proofs/WorldInline.lean`) -/

/-- The option set the `-inline` theorems are about (no `-switch`, AST support). -/
def inlOpts : Opts := { inline := true, switch := false, ast := true }

/-- "The rule named `n` gets a function under `-inline`".  Which rules are compiled in place only
    depends on the reference counts and on the label counter (`slotOf`: the rule emitted with label
    0 keeps its function), so this is read off the emitted program. -/
def hasFuncI (G : Grammar) (n : String) : Bool := ((compileAll inlOpts G).find n).isSome

/-- A rule is fine if it gets no function, or its *expanded* body is in the fragment of
    `Expr.fine` (terminals below END, no `str`/`ualt`) and every reference that is left in it
    (not compiled in place) is to a rule that gets a function. -/
def ruleOKI (G : Grammar) (r : Rule) : Bool :=
  !hasFuncI G r.name || (bodyOf inlOpts G r).okB (hasFuncI G)

def GrammarOKI (G : Grammar) : Bool :=
  G.rules.all fun r => match G.find r.name with
    | some r' => ruleOKI G r'
    | none => true

/-- A rule is fine if it gets no function under `-inline`, or its *expanded* body is in the fragment
    of `Expr.fineS` — terminals below END, no `str`, every `ualt ks es` non-empty with
    `casesLeadOK ks es` (on the expanded case bodies: the check walks into bodies compiled in place,
    where the elision happens) — and every reference left in it is to a rule that gets a function. -/
def ruleOKIS (G : Grammar) (r : Rule) : Bool :=
  !hasFuncI G r.name || (bodyOf inlOpts G r).okS (hasFuncI G)

/-- The condition on the linked and `-switch`-rewritten grammar for emission with `-inline`. -/
def GrammarOKIS (G : Grammar) : Bool :=
  G.rules.all fun r => match G.find r.name with
    | some r' => ruleOKIS G r'
    | none => true

/-! ### No `inl` node: soundness of `CheckAlwaysSucceeds` (`Proofs/AlwaysLemmas.lean`) -/

mutual
  /-- No `inl` and no `ualt` node anywhere below. -/
  def Expr.plain : Expr → Bool
    | .inl _ _ => false
    | .ualt _ _ => false
    | .seq es => plainL es
    | .alt es => plainL es
    | .peekFor e => e.plain
    | .peekNot e => e.plain
    | .query e => e.plain
    | .star e => e.plain
    | .plus e => e.plain
    | .push e _ => e.plain
    | .ipush e _ => e.plain
    | _ => true
  def plainL : List Expr → Bool
    | [] => true
    | e :: es => e.plain && plainL es
end

mutual
  /-- No `inl` node, except possibly below a `ualt` (where `casF` never looks). -/
  def Expr.plainS : Expr → Bool
    | .inl _ _ => false
    | .ualt _ _ => true
    | .seq es => plainSL es
    | .alt es => plainSL es
    | .peekFor e => e.plainS
    | .peekNot e => e.plainS
    | .query e => e.plainS
    | .star e => e.plainS
    | .plus e => e.plainS
    | .push e _ => e.plainS
    | .ipush e _ => e.plainS
    | _ => true
  def plainSL : List Expr → Bool
    | [] => true
    | e :: es => e.plainS && plainSL es
end

end PegVerif
