import PegVerif.Model.Syntax
/-
  Ford's well-formedness of a grammar (POPL 2004, §3.6) as a decidable check `WFB`; Ford's totality
  result that rests on it is proved in `Proofs/TotalLemmas.lean`.

  * `nullE N e`      conservative "may succeed without consuming", relative to a set `N` of rule
                     names assumed nullable; `nullSet G` = the least such set, by Kleene iteration;
                     `closedB G N` checks that `N` is closed (a pre-fixed point), which is all the
                     soundness proof needs.
  * `wfF G N f e`    Ford's inductive set WF, with the induction height made explicit as fuel:
                     the check descends into every *first-position* sub-expression and through
                     rule references, and fails when the fuel runs out — so a left-recursive rule
                     is rejected, and the fuel at which a check succeeds is the rank used in the
                     totality proof.
  * `subsB G N F e`  every proper sub-expression of `e` passes `wfF … F`.
  * `WFB G`          `nullSet G` is closed and every rule body passes `wfF` and `subsB`.
-/
namespace PegVerif

mutual
  /-- Over-approximation of "`e` can succeed without consuming input", where the references in
      `N` are assumed to be nullable. -/
  def nullE (N : List String) : Expr → Bool
    | .dot => false
    | .chr _ => false
    | .rng _ _ => false
    | .str s => s.isEmpty
    | .name n => N.contains n
    | .inl _ e => nullE N e
    | .pred _ => true
    | .stmt _ => true
    | .act _ => true
    | .seq es => nullAll N es
    | .alt es => nullAny N es
    | .ualt _ es => nullAny N es
    | .peekFor _ => true
    | .peekNot _ => true
    | .query _ => true
    | .star _ => true
    | .plus e => nullE N e
    | .push e _ => nullE N e
    | .ipush e _ => nullE N e
    | .nil => true
  def nullAll (N : List String) : List Expr → Bool
    | [] => true
    | e :: es => nullE N e && nullAll N es
  def nullAny (N : List String) : List Expr → Bool
    | [] => false
    | e :: es => nullE N e || nullAny N es
end

/-- One Kleene step: the names of the rules whose body is nullable relative to `N`. -/
def nullStep (G : Grammar) (N : List String) : List String :=
  (G.rules.filter (fun r => nullE N r.body)).map (·.name)

def nullIter (G : Grammar) : Nat → List String → List String
  | 0, N => N
  | k + 1, N => nullIter G k (nullStep G N)

/-- The nullable rules: `|rules|` Kleene steps from the empty set (each non-final step adds a rule,
    so this is the least fixed point; `WFB` re-checks closedness instead of relying on that). -/
def nullSet (G : Grammar) : List String := nullIter G G.rules.length []

/-- `N` is closed: a rule whose body is nullable relative to `N` is in `N`. -/
def closedB (G : Grammar) (N : List String) : Bool :=
  G.rules.all (fun r => !nullE N r.body || N.contains r.name)

/-- `wfF G N f e`: `e` is in Ford's set WF, by a derivation of height `≤ f`.
    The check visits the first-position sub-expressions only (the rest of a sequence is visited
    iff its head is nullable), goes through rule references, and fails on: fuel exhaustion (left
    recursion), an undefined reference, the empty choice (ordered or `-switch`), and `e*`/`e+`
    over a nullable `e`.  Every case of a `-switch` node is in first position. -/
def wfF (G : Grammar) (N : List String) : Nat → Expr → Bool
  | 0, _ => false
  | _ + 1, .dot => true
  | _ + 1, .chr _ => true
  | _ + 1, .rng _ _ => true
  | _ + 1, .str _ => true
  | _ + 1, .pred _ => true
  | _ + 1, .stmt _ => true
  | _ + 1, .act _ => true
  | _ + 1, .nil => true
  | f + 1, .name n =>
    match G.body n with
    | none => false
    | some b => wfF G N f b
  | f + 1, .inl _ e => wfF G N f e
  | _ + 1, .seq [] => true
  | f + 1, .seq (e :: es) => wfF G N f e && (!nullE N e || wfF G N f (.seq es))
  | _ + 1, .alt [] => false
  | f + 1, .alt [e] => wfF G N f e
  | f + 1, .alt (e :: e' :: es) => wfF G N f e && wfF G N f (.alt (e' :: es))
  | f + 1, .ualt _ es => !es.isEmpty && es.all (fun e => wfF G N f e)
  | f + 1, .peekFor e => wfF G N f e
  | f + 1, .peekNot e => wfF G N f e
  | f + 1, .query e => wfF G N f e
  | f + 1, .star e => !nullE N e && wfF G N f e
  | f + 1, .plus e => !nullE N e && wfF G N f e
  | f + 1, .push e _ => wfF G N f e
  | f + 1, .ipush e _ => wfF G N f e

mutual
  /-- Every proper sub-expression of `e` passes `wfF G N F`. -/
  def subsB (G : Grammar) (N : List String) (F : Nat) : Expr → Bool
    | .inl _ e => wfF G N F e && subsB G N F e
    | .seq es => subsL G N F es
    | .alt es => subsL G N F es
    | .ualt _ es => subsL G N F es
    | .peekFor e => wfF G N F e && subsB G N F e
    | .peekNot e => wfF G N F e && subsB G N F e
    | .query e => wfF G N F e && subsB G N F e
    | .star e => wfF G N F e && subsB G N F e
    | .plus e => wfF G N F e && subsB G N F e
    | .push e _ => wfF G N F e && subsB G N F e
    | .ipush e _ => wfF G N F e && subsB G N F e
    | .dot => true
    | .chr _ => true
    | .rng _ _ => true
    | .str _ => true
    | .name _ => true
    | .pred _ => true
    | .stmt _ => true
    | .act _ => true
    | .nil => true
  def subsL (G : Grammar) (N : List String) (F : Nat) : List Expr → Bool
    | [] => true
    | e :: es => wfF G N F e && subsB G N F e && subsL G N F es
end

mutual
  /-- Size of an expression, counting one per list cell (an upper bound of the fuel `wfF` needs to
      traverse the expression itself). -/
  def Expr.wsize : Expr → Nat
    | .inl _ e => e.wsize + 1
    | .seq es => wsizeL es + 1
    | .alt es => wsizeL es + 1
    | .ualt _ es => wsizeL es + 1
    | .peekFor e => e.wsize + 1
    | .peekNot e => e.wsize + 1
    | .query e => e.wsize + 1
    | .star e => e.wsize + 1
    | .plus e => e.wsize + 1
    | .push e _ => e.wsize + 1
    | .ipush e _ => e.wsize + 1
    | _ => 1
  def wsizeL : List Expr → Nat
    | [] => 0
    | e :: es => e.wsize + 1 + wsizeL es
end

/-- Enough fuel: a chain of first-position references without repetition enters every rule body at
    most once, plus the body the chain started in. -/
def wfFuel (G : Grammar) : Nat :=
  2 * G.rules.foldl (fun acc r => acc + r.body.wsize + 1) 1

/-- Ford's well-formedness of a grammar, as a decidable check. -/
def WFB (G : Grammar) : Bool :=
  closedB G (nullSet G) &&
    G.rules.all (fun r => wfF G (nullSet G) (wfFuel G) r.body && subsB G (nullSet G) (wfFuel G) r.body)

end PegVerif
