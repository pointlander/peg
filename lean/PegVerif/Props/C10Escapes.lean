import PegVerif.Proofs.FrontLemmas
import PegVerif.Proofs.FrontFold
/-
  C10 — the escape table: ONE kernel evaluation of it (`escTable_checked`) carries the theorems
  about escape spellings, in a case-sensitive and in a case-insensitive position.
-/
namespace PegVerif

/-- A spelling (runes, starting with the backslash) and what it must mean. -/
abbrev EscRow := List Sym × EscDen

/-- `\a \b \e \f \n \r \t \v` and their upper-case forms (the escapes are double-quoted in
    peg.peg, hence case-insensitive), `\' \" \[ \] \- \\`. -/
def namedRows : List EscRow := List.map (fun r => (r.1, EscDen.cp r.2))
  [ ([92, 97], 7), ([92, 98], 8), ([92, 101], 27), ([92, 102], 12), ([92, 110], 10), ([92, 114], 13),
    ([92, 116], 9), ([92, 118], 11),
    ([92, 65], 7), ([92, 66], 8), ([92, 69], 27), ([92, 70], 12), ([92, 78], 10), ([92, 82], 13),
    ([92, 84], 9), ([92, 86], 11),
    ([92, 39], 39), ([92, 34], 34), ([92, 91], 91), ([92, 93], 93), ([92, 45], 45), ([92, 92], 92) ]

def oct1 (v : Nat) : List Sym := [92, 48 + v]
def oct2 (v : Nat) : List Sym := [92, 48 + v / 8, 48 + v % 8]
def oct3 (v : Nat) : List Sym := [92, 48 + v / 64, 48 + v / 8 % 8, 48 + v % 8]

/-- Every octal spelling: `\0`…`\7`, `\00`…`\77`, `\000`…`\377`. -/
def octalRows : List EscRow :=
  (List.range 8).map (fun v => (oct1 v, .cp v)) ++ (List.range 64).map (fun v => (oct2 v, .cp v)) ++
  (List.range 256).map (fun v => (oct3 v, .cp v))

def hexDigitSym (d : Nat) (upper : Bool) : Sym :=
  if d < 10 then 48 + d else (if upper then 55 else 87) + d
/-- Hex digits of `v`, most significant first (`fuel` bounds the number of digits). -/
def hexDigits (upper : Bool) : Nat → Nat → List Sym → List Sym
  | 0, _, acc => acc
  | f + 1, v, acc =>
    if v < 16 then hexDigitSym v upper :: acc
    else hexDigits upper f (v / 16) (hexDigitSym (v % 16) upper :: acc)
/-- The digits of a hex spelling of `v`: `zeros` leading zeros, then the digits of `v`. -/
def hexDs (dUpper : Bool) (zeros : Nat) (v : Nat) : List Sym :=
  List.replicate zeros 48 ++ hexDigits dUpper 40 v []
def hexSp (xUpper dUpper : Bool) (zeros : Nat) (v : Nat) : List Sym :=
  [92, 48, if xUpper then 88 else 120] ++ hexDs dUpper zeros v

/-- What a hex escape with digits `ds` of value `v` must mean: the code point `v` if `v` is one,
    else the error that names the escape as written. -/
def hexDen (ds : List Sym) (v : Nat) : EscDen :=
  if isCodePoint v = true then .cp v else .err [hexErrMsg ds]
def hexRow (xUpper dUpper : Bool) (zeros : Nat) (v : Nat) : EscRow :=
  (hexSp xUpper dUpper zeros v, hexDen (hexDs dUpper zeros v) v)

/-- Representative hex values: boundaries of ASCII, Latin-1, the BMP, the surrogate block, the
    code space, int32, uint32, uint64. -/
def hexValues : List Nat :=
  [0x0, 0x7, 0x9, 0xa, 0x1b, 0x41, 0x61, 0x7f, 0x80, 0xff, 0x100, 0x3b1, 0x4e2d, 0xd7ff, 0xd800,
   0xdbff, 0xdfff, 0xe000, 0xfffd, 0xffff, 0x10000, 0x1f600, 0x10ffff, 0x110000, 0x7fffffff,
   0x80000000, 0xffffffff, 0x100000000, 0xffffffffffffffff, 0x10000000000000000,
   0xffffffffffffffffffff]

/-- `\0x…`, `\0X…`, upper-case digits, leading zeros. -/
def hexRows : List EscRow :=
  hexValues.flatMap (fun v =>
    [ hexRow false false 0 v, hexRow true false 0 v, hexRow false true 0 v, hexRow false false 3 v ])

/-- The rows of the table that are errors: 4 spellings each of 0xd800, 0xdbff, 0xdfff, 0x110000,
    0x7fffffff, 0x80000000, 0xffffffff, 0x100000000, 2^64-1, 2^64, 2^80-1. -/
theorem hexRows_errors :
    (hexRows.filter (fun row => match row.2 with | .err _ => true | .cp _ => false)).length = 44 := by
  kernel_rfl

def escTable : List EscRow := namedRows ++ octalRows ++ hexRows

/-- Spellings that are NOT escapes (rule `Escape` does not consume exactly them). -/
def nonEscapes : List (List Sym) :=
  [ [92], [92, 113], [92, 120, 52, 49], [92, 56], [92, 52, 48, 48], [92, 48, 120], [92, 94],
    [92, 32], [92, 10], [92, 117, 48, 48, 52, 49], [92, 40], [92, 47], [92, 35] ]

theorem escTable_size : escTable.length = 22 + 328 + 124 := by kernel_rfl

/-- Six units of fuel are held back: rule `DoubleChar` runs `Escape` six levels further in
    (`fold_of_char`), so the one evaluation serves both positions a character can stand in. -/
theorem escTable_checked :
    escTable.all (fun row =>
      charOf row.1.length (pipeI pegBodies pegKinds rEscape row.1 58) == some (some row.2) &&
      oneChar (pipeI pegBodies pegKinds rEscape row.1 58)) = true := by
  kernel_rfl

theorem nonEscapes_checked :
    nonEscapes.all (fun sp => charOf sp.length (pipeI pegBodies pegKinds rEscape sp 64) == some none) = true := by
  kernel_rfl

/-- C10, escapes: EVERY named escape spelling, EVERY octal spelling (1, 2 and 3 digits, 0–0377)
    and the representative hex spellings mean to the front end (rule `Escape` of the regenerated
    grammar, the action code of peg.peg run against the builder model) what the table says: the
    stated code point, or, for the 44 hex spellings whose value is none (`hexRows_errors`), the
    error naming them. -/
theorem C10_escape_table : ∀ row ∈ escTable, frontChar row.1 = some row.2 := by
  intro row hrow
  have h := List.all_eq_true.mp escTable_checked row hrow
  rw [Bool.and_eq_true, beq_iff_eq] at h
  rw [frontChar_eq]
  exact frontCharCore_eq pegNumbered nm_escape (by decide) h.1

theorem C10_non_escapes : ∀ sp ∈ nonEscapes, frontChar sp = none := by
  intro sp hsp
  rw [frontChar_eq]
  exact frontCharCore_eq pegNumbered nm_escape (Nat.le_refl 64)
    (eq_of_beq (List.all_eq_true.mp nonEscapes_checked sp hsp))

/-- C10, escapes in a CASE-INSENSITIVE position (one character of a double-quoted literal or of a
    `[[…]]` class, rule `DoubleChar`): EVERY spelling of the escape table that denotes a code point
    `c` becomes `foldNode c` — the choice lower / upper when `c` is a letter (`\101`, `\0x61`,
    `\0X3B1`, …), the plain character when it has no case; a spelling that is reported yields no
    node (`none`, which is also `frontFold`'s answer to a text `DoubleChar` does not read). -/
theorem C10_caseFold_escapes : ∀ row ∈ escTable,
    (∀ c, row.2 = .cp c → frontFold row.1 = some (foldNode c)) ∧
    (∀ msgs, row.2 = .err msgs → frontFold row.1 = none) := by
  intro row hrow
  have h := List.all_eq_true.mp escTable_checked row hrow
  rw [Bool.and_eq_true, beq_iff_eq] at h
  rw [frontFold_eq, frontFoldCore_eq pegNumbered nm_doubleChar (by decide) (fold_of_char row.1 row.2 h.1 h.2)]
  exact ⟨fun c hc => (by rw [hc]; rfl), fun msgs hm => (by rw [hm]; rfl)⟩

#print axioms C10_escape_table
#print axioms C10_non_escapes
#print axioms C10_caseFold_escapes

end PegVerif
