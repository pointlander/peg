import PegVerif.Proofs.SchedLemmas
import PegVerif.Generated.Footprints
/-
  C09 — generation is deterministic and race-free (logic core + facts regenerated from the source).

  `Generated/Footprints.lean` is rewritten by `harness/cmd/facts` from the CURRENT `tree/peg.go`
  on every run.  The theorems below are stated about those lists; when the source changes so that
  the two `wg.Go` closures of `(*Tree).Compile` share a written location, a map is iterated, a
  package-level variable is assigned or the extractor meets something it cannot classify, the
  `decide` proofs stop elaborating and the build fails.  The theorems hold for ANY two deterministic
  threads that respect the extracted footprints; the generic part, with the two-thread family
  `two` / `twoL` of the statements, is Proofs/SchedLemmas.lean.

  What is ASSUMED (not provable with what is installed)
  1. Go's memory model: a data-race-free program behaves sequentially consistently (DRF-SC), i.e. as
     some interleaving of atomic steps (`Sched.run`); `sync.WaitGroup.Go/Wait` order the closures
     after the code before `wg.Go` and before the code after `wg.Wait`.
  2. Soundness of the extractor: the real closures respect the extracted footprints (`Respects`),
     with locations abstracted as documented in `harness/cmd/facts` (type-based struct fields, one
     location per captured local, thread-local allocations excluded) and the external functions
     listed in `Generated.gCalledExternals` touching only their arguments.  Supported dynamically by
     `harness/cmd/racex` (race detector, GOMAXPROCS 1/2/16, byte-identical outputs).
  3. The rest of `Compile` is sequential and deterministic: covered by the deterministic Lean model
     of `Compile` (a function of grammar, options, args) — a separate part of the project; the
     extractor checks that the main goroutine does nothing between the first `wg.Go` and `wg.Wait`
     and that no other goroutine is started (else `unknownConstructs ≠ []`).
-/
namespace PegVerif
open Sched Generated

/-- The extractor classified every construct inside the two closures (it fails closed). -/
theorem C09_extractor_closed : unknownConstructs = [] := by decide

/-- Bernstein's conditions hold for the footprints extracted from the current source:
    `W₁ ∩ (R₂ ∪ W₂) = ∅` and `W₂ ∩ (R₁ ∪ W₁) = ∅`. -/
theorem C09_analyses_disjoint : Bernstein2 g1Reads g1Writes g2Reads g2Writes := by decide

/-- Every complete interleaving of the two analyses yields the same state. -/
theorem C09_analyses_schedule_independent {V : Type} {t₁ t₂ : Thread V}
    (h₁ : Respects t₁ g1Reads g1Writes) (h₂ : Respects t₂ g2Reads g2Writes)
    {s s' : List Bool} {σ : State V}
    (hc : Complete (two t₁ t₂) s σ) (hc' : Complete (two t₁ t₂) s' σ) :
    run (two t₁ t₂) s σ = run (two t₁ t₂) s' σ :=
  interleave_indep (respects_two h₁ h₂) (bernstein_two C09_analyses_disjoint) hc hc'

/-- ... and that state is the one of the sequential program "first analysis, then second". -/
theorem C09_analyses_sequential {V : Type} {t₁ t₂ : Thread V}
    (h₁ : Respects t₁ g1Reads g1Writes) (h₂ : Respects t₂ g2Reads g2Writes)
    {s : List Bool} {σ : State V} (hc : Complete (two t₁ t₂) s σ) :
    ∃ k₁ k₂, t₁.Done (solo t₁ k₁ σ) ∧ t₂.Done (solo t₂ k₂ (solo t₁ k₁ σ)) ∧
      run (two t₁ t₂) s σ = solo t₂ k₂ (solo t₁ k₁ σ) :=
  interleave_seq2 h₁ h₂ C09_analyses_disjoint hc

/-- No data race between the analyses at the level of abstract locations. -/
theorem C09_analyses_race_free :
    ¬ ∃ i j l, Conflict (twoL g1Reads g2Reads) (twoL g1Writes g2Writes) i j l :=
  no_conflict (bernstein_two C09_analyses_disjoint)

/-- Semantic form: whatever one analysis really changes, the other neither reads nor writes. -/
theorem C09_analyses_race_free_sem {V : Type} {t₁ t₂ : Thread V}
    (h₁ : Respects t₁ g1Reads g1Writes) (h₂ : Respects t₂ g2Reads g2Writes)
    {σ : State V} {l : Loc} :
    (WritesAt t₁ σ l → Ignores t₂ g2Writes l) ∧ (WritesAt t₂ σ l → Ignores t₁ g1Writes l) :=
  ⟨fun hw => ignores_of_not_mem h₂.reads (C09_analyses_disjoint.1 l (mem_of_writesAt h₁.writes hw)),
   fun hw => ignores_of_not_mem h₁.reads (C09_analyses_disjoint.2 l (mem_of_writesAt h₂.writes hw))⟩

/-- Nothing reachable from `Compile` iterates over a map (Go randomises that order). -/
theorem C09_no_map_iteration : compileMapRanges = [] := by decide

/-- Nothing reachable from `Compile` asks a clock, a random source, the environment, ... -/
theorem C09_no_nondet_calls : compileNondetCalls = [] := by decide

/-- No package-level variable of the generator is written outside initialisation. -/
theorem C09_no_pkg_state : treePkgVarWrites = [] := by decide

/-- Concurrent generations of independent trees: given that (as extracted) `Compile` keeps no
    package-level state, the generations form a product of confined components, and what each one
    produces does not depend on the others or on the interleaving. -/
theorem C09_independent_generations {ι S : Type} [DecidableEq ι] {g : PSys ι S}
    (sound : treePkgVarWrites = [] → Confined g) (i : ι) (s : List ι) (σ τ : ι → S)
    (h : σ i = τ i) : prun g s σ i = prun g (s.filter (· = i)) τ i :=
  product_noninterference (sound C09_no_pkg_state) i s σ τ h

/-! ### Non-vacuity: a concrete system with the generated footprints -/

namespace C09Example

def upd (σ : State Nat) (l : Loc) (v : Nat) : State Nat := fun l' => if l' = l then v else σ l'

/-- "count": reads `Tree.Rules`, writes `local:usage` once. -/
def t₁ : Thread Nat :=
  ⟨fun σ => if σ "local:usage" = 0 then some (upd σ "local:usage" (σ "Tree.Rules" + 1)) else none⟩

/-- "check": reads `Tree.Rules`, appends to `Tree.werr` once. -/
def t₂ : Thread Nat :=
  ⟨fun σ => if σ "Tree.werr" = 0 then some (upd σ "Tree.werr" (σ "Tree.Rules" + 7)) else none⟩

/-- The shape of both threads: if cell `k` is still 0, store `σ r + c` in it, else stop.  `t₁` is
    `once "local:usage" "Tree.Rules" 1` and `t₂` is `once "Tree.werr" "Tree.Rules" 7` by unfolding,
    which is how `respects₁` and `respects₂` below typecheck. -/
def once (k r : Loc) (c : Nat) : Thread Nat :=
  ⟨fun σ => if σ k = 0 then some (upd σ k (σ r + c)) else none⟩

theorem respects_once {k r : Loc} {c : Nat} {R W : List Loc} (hr : r ∈ R) (hk : k ∈ W) :
    Respects (once k r c) R W := by
  constructor
  · intro σ σ' hs l hl
    have hne : l ≠ k := fun h => hl (h ▸ hk)
    simp only [once] at hs
    split at hs
    · cases hs
      simp [upd, hne]
    · cases hs
  · intro σ τ hA
    have hu : σ k = τ k := hA _ (List.mem_append_right _ hk)
    have hr : σ r = τ r := hA _ (List.mem_append_left _ hr)
    simp only [once, hu, hr]
    by_cases h : τ k = 0
    · simp only [h, if_true]
      intro l hl
      have := hA l (List.mem_append_right _ hl)
      simp [upd, this]
    · simp [h]

theorem respects₁ : Respects t₁ g1Reads g1Writes :=
  respects_once (k := "local:usage") (r := "Tree.Rules") (c := 1) (by decide) (by decide)

theorem respects₂ : Respects t₂ g2Reads g2Writes :=
  respects_once (k := "Tree.werr") (r := "Tree.Rules") (c := 7) (by decide) (by decide)

def σ₀ : State Nat := fun l => if l = "Tree.Rules" then 4 else 0

theorem complete_ab : Complete (two t₁ t₂) [false, true] σ₀ := by
  intro i; cases i <;> simp [Thread.Done, run, two, Thread.stepT, t₁, t₂, upd, σ₀]

theorem complete_ba : Complete (two t₁ t₂) [true, false, true] σ₀ := by
  intro i; cases i <;> simp [Thread.Done, run, two, Thread.stepT, t₁, t₂, upd, σ₀]

/-- The hypotheses of the C09 theorems are satisfiable with the generated footprints, and the
    common result is the expected one. -/
example : run (two t₁ t₂) [false, true] σ₀ = run (two t₁ t₂) [true, false, true] σ₀ :=
  C09_analyses_schedule_independent respects₁ respects₂ complete_ab complete_ba

example : run (two t₁ t₂) [true, false, true] σ₀ "local:usage" = 5 ∧
    run (two t₁ t₂) [true, false, true] σ₀ "Tree.werr" = 11 := by
  simp [run, two, Thread.stepT, t₁, t₂, upd, σ₀]

/-- Teeth: when the footprints overlap (the second thread reads what the first writes), Bernstein's
    conditions are refuted by `decide` and the two orders really differ. -/
def bad₂ : Thread Nat :=
  ⟨fun σ => if σ "Tree.werr" = 0 then some (upd σ "Tree.werr" (σ "local:usage" + 7)) else none⟩

example : ¬ Bernstein2 g1Reads g1Writes ("local:usage" :: g2Reads) g2Writes := by decide
example : ¬ Bernstein2 g1Reads g1Writes g2Reads ("local:usage" :: g2Writes) := by decide

example : run (two t₁ bad₂) [false, true] σ₀ "Tree.werr" ≠
    run (two t₁ bad₂) [true, false] σ₀ "Tree.werr" := by
  simp [run, two, Thread.stepT, t₁, bad₂, upd, σ₀]

end C09Example

end PegVerif

#print axioms PegVerif.C09_extractor_closed
#print axioms PegVerif.C09_analyses_disjoint
#print axioms PegVerif.C09_analyses_schedule_independent
#print axioms PegVerif.C09_analyses_sequential
#print axioms PegVerif.C09_analyses_race_free
#print axioms PegVerif.C09_analyses_race_free_sem
#print axioms PegVerif.C09_no_map_iteration
#print axioms PegVerif.C09_no_nondet_calls
#print axioms PegVerif.C09_no_pkg_state
#print axioms PegVerif.C09_independent_generations
#print axioms PegVerif.Sched.interleave_indep
#print axioms PegVerif.Sched.no_conflict
