import PegVerif.Proofs.SwitchLemmas
import PegVerif.Proofs.SwitchParser
import PegVerif.Model.SafeDef
import PegVerif.Proofs.Implements
import PegVerif.Model.Optimise
import PegVerif.Model.Link
import PegVerif.Generated.PegGrammar
/-
  C02 (`-switch` part) — translation validation of the first-set rewrite.

  There is no theorem about `optimise` (the rewrite `optimizeAlternates`) itself: it was unsound for
  some grammars (finding F-C02-1 and the parentDetect defects of `compile`, repaired in
  `tree/peg.go`; the replay grammars of the repairs are TESTS at the end of this file) and it
  computes with the interval sets of `set/set.go`.  What is proved (Proofs/SwitchLemmas.lean): for
  every pair `G`, `G'` the executable check `swOK G G'` accepts, every rule has the same outcome in
  both grammars.

  The TESTS of the checker at the end: each `example` is evaluated by the kernel through `decide`;
  the `#guard`s are evaluated by the interpreter and fail the build when false.
-/
namespace PegVerif

/-- If `swOK` accepts, the rewritten grammar has the outcomes of the original: same verdict, same
    end position, same derivation forest. -/
theorem C02_switch_validated {G G' : Grammar} (h : swOK G G' = true) {ρ inp n p res evs}
    (he : Eval G ρ inp (.name n) p res evs) : ∃ evs', Eval G' ρ inp (.name n) p res evs' :=
  Eval_switch h he

/-- … and with a well-formed original the outcomes are exactly the same. -/
theorem C02_switch_validated_iff {G G' : Grammar} (hwf : WFB G = true) (h : swOK G G' = true)
    {ρ inp n p res} :
    (∃ evs, Eval G ρ inp (.name n) p res evs) ↔ (∃ evs', Eval G' ρ inp (.name n) p res evs') :=
  Eval_switch_iff hwf h

/-- For the real optimiser: whenever its output passes the check, it is equivalent. -/
theorem C02_switch_optimise {G G' : Grammar} (_ho : optimise G = .ok G') (h : swOK G G' = true)
    {ρ inp n p res res' evs evs'}
    (he : Eval G ρ inp (.name n) p res evs) (he' : Eval G' ρ inp (.name n) p res' evs') :
    res = res' :=
  Eval_switch_unique h he he'

/-- What `switchSafe` gives: `World` for the program emitted from the rewritten grammar, and the
    rewritten grammar has the outcomes of the source grammar. -/
theorem switchSafe_world {G : Grammar} (G' : Grammar) (o : Opts) (cfg : Cfg) (inp : List Sym)
    (hwf : WFB G = true) (hsafe : switchSafe G G' = true)
    (hinl : o.inline = false) (hast : o.ast = true) (hcfg : cfg.ast = true)
    (hinp : ∀ c ∈ inp, c ≠ END) :
    World (compileAll o G') cfg (realEnv o G') G' inp ∧ Bridge G G' := by
  simp only [switchSafe, Bool.and_eq_true] at hsafe
  obtain ⟨⟨⟨hsw, hG⟩, hL⟩, hp⟩ := hsafe
  exact ⟨switch_world G' o cfg inp hinl hast hcfg hinp hG hL (Grammar.plainS_of_all hp),
    Bridge.switch hwf hsw⟩

/-- **C02, `-switch`, end to end.**  For a well-formed grammar `G` and ANY rewritten grammar `G'`
    (in particular `optimise G`) that passes the decidable check `switchSafe`, the parser emitted
    with `-switch` from `G'` — run from any post-`Reset` state on any input — terminates, never
    panics, and returns exactly the verdict, the consumed prefix and the token sequence that the
    PEG semantics of the ORIGINAL grammar `G` prescribes. -/
theorem C02_switch_parser (G G' : Grammar) (o : Opts) (cfg : Cfg) (inp : List Sym)
    (hwf : WFB G = true) (hsafe : switchSafe G G' = true)
    (hinl : o.inline = false) (hast : o.ast = true) (hcfg : cfg.ast = true)
    (hinp : ∀ c ∈ inp, c ≠ END)
    {n cr} (hfind : (compileAll o G').find n = some cr) :
    ∃ res evs, Eval G cfg.rho inp (.name n) 0 res evs ∧
      (∃ out s', Exec (compileAll o G') cfg inp cr 0 St.init Frame.empty (out, s')) ∧
      ∀ s out s', AfterReset s → Exec (compileAll o G') cfg inp cr 0 s Frame.empty (out, s') →
        out ≠ .panic ∧
        match res with
        | .ok p' forest => out = .ret true ∧ s'.pos = p' ∧ s'.tree.take s'.ti = postorderL forest
        | .fail => out = .ret false ∧ s'.pos = 0 := by
  obtain ⟨hW, hB⟩ := switchSafe_world G' o cfg inp hwf hsafe hinl hast hcfg hinp
  obtain ⟨res, evs, _, hev, _, hall⟩ := implements_ast hW hB hfind
  exact ⟨res, evs, hev, (hall _ afterReset_init).1, fun s out s' hs hrun => ((hall s hs).2 out s' hrun).parse⟩

/-- **C02, `-switch` against the default parser**: under `switchSafe` (and the default parser's own
    side conditions on `G`), the parser generated WITH `-switch` and the parser generated WITHOUT
    give the same verdict, consume the same prefix and record the same token sequence, on every
    input and from every post-`Reset` state. -/
theorem C02_switch_same_as_default (G G' : Grammar) (o o' : Opts) (cfg : Cfg) (inp : List Sym)
    (hwf : WFB G = true) (hsafe : switchSafe G G' = true)
    (hinl : o.inline = false) (hsw : o.switch = false) (hast : o.ast = true)
    (hinl' : o'.inline = false) (hast' : o'.ast = true) (hcfg : cfg.ast = true)
    (hinp : ∀ c ∈ inp, c ≠ END)
    (hG : GrammarOK G = true) (hL : LinkedOK G = true) (hplain : G.plain)
    {n cr cr'} (hfind : (compileAll o G).find n = some cr) (hfind' : (compileAll o' G').find n = some cr')
    {s t out out' s' t'} (hs : AfterReset s) (ht : AfterReset t)
    (hrun : Exec (compileAll o G) cfg inp cr 0 s Frame.empty (out, s'))
    (hrun' : Exec (compileAll o' G') cfg inp cr' 0 t Frame.empty (out', t')) :
    out = out' ∧ out ≠ .panic ∧ s'.pos = t'.pos ∧
      (out = .ret true → s'.tree.take s'.ti = t'.tree.take t'.ti) := by
  obtain ⟨hW', hB⟩ := switchSafe_world G' o' cfg inp hwf hsafe hinl' hast' hcfg hinp
  obtain ⟨res, evs, _, hev, _, hall⟩ := implements_ast hW' hB hfind'
  have hW := compileAll_world' (cfg := cfg) (inp := inp) hsw hinl hast hcfg hinp hG hL hplain
  have a := R_afterReset hW hs hfind hev hrun
  obtain ⟨ho, hp, _, htoks⟩ := a.agree ((hall t ht).2 out' t' hrun')
  exact ⟨ho, a.ne_panic, hp, fun _ => htoks⟩

/-! ## TESTS of the checker -/
namespace SwitchTests

def run (G : Grammar) (s : String) : Option Res :=
  (evalF G (fun _ _ => true) (s.toList.map Char.toNat) 1000 (.name "S") 0).map (·.1)

def accepts (G : Grammar) (s : String) : Bool :=
  match run G s with
  | some (.ok _ _) => true
  | _ => false

def accepts' (G : Grammar) (inp : List Sym) : Bool :=
  match evalF G (fun _ _ => true) inp 1000 (.name "S") 0 with
  | some (.ok _ _, _) => true
  | _ => false

/-- `optimise G`, and whether the checker accepts it. -/
def checkOpt (G : Grammar) : Option Bool := (optimise G).toOption.map (swOK G)

/-- TEST (i).  `S <- ('a' 'x' / [b-c] 'y' / 'd' 'z') !.` -/
def G1 : Grammar := { rules := [
  { name := "S", id := 0, body := .ipush (.seq [
      .alt [.seq [.chr 97, .chr 120], .seq [.rng 98 99, .chr 121], .seq [.chr 100, .chr 122]],
      .peekNot .dot]) "S" }] }

/-- … and a hand-written switch form. -/
def G1hand : Grammar := { rules := [
  { name := "S", id := 0, body := .ipush (.seq [
      .ualt [[(97, 97)], [(98, 99)], [(100, 100)]]
        [.seq [.chr 97, .chr 120], .seq [.rng 98 99, .chr 121], .seq [.chr 100, .chr 122]],
      .peekNot .dot]) "S" }] }

example : swOK G1 G1hand = true := by decide +kernel
/-- The optimiser's own output (cases in its shuffled order). -/
example : checkOpt G1 = some true := by decide +kernel
/-- No rewrite at all is also accepted. -/
example : swOK G1 G1 = true := by decide +kernel

/-- TEST: wrong hand-written forms of `G1` are rejected — a key that does not contain the first
    set of its case; overlapping keys of an earlier case; a case dropped. -/
def G1bad (ks : List KeySet) (us : List Expr) : Grammar := { rules := [
  { name := "S", id := 0, body := .ipush (.seq [.ualt ks us, .peekNot .dot]) "S" }] }

example : swOK G1 (G1bad [[(97, 97)], [(98, 98)], [(100, 100)]]
    [.seq [.chr 97, .chr 120], .seq [.rng 98 99, .chr 121], .seq [.chr 100, .chr 122]]) = false := by
  decide +kernel
example : swOK G1 (G1bad [[(97, 98)], [(98, 99)], [(100, 100)]]
    [.seq [.chr 97, .chr 120], .seq [.rng 98 99, .chr 121], .seq [.chr 100, .chr 122]]) = false := by
  decide +kernel
example : swOK G1 (G1bad [[(97, 97)], [(98, 99)]]
    [.seq [.chr 97, .chr 120], .seq [.rng 98 99, .chr 121]]) = false := by
  decide +kernel
/-- The default case's keys are not used: anything there is fine … -/
example : swOK G1 (G1bad [[(97, 97)], [(98, 99)], []]
    [.seq [.chr 97, .chr 120], .seq [.rng 98 99, .chr 121], .seq [.chr 100, .chr 122]]) = true := by
  decide +kernel
/-- … but the default must not be able to start with a symbol of another case. -/
example : swOK G1 (G1bad [[(97, 97)], [(100, 100)], []]
    [.seq [.chr 97, .chr 120], .seq [.chr 100, .chr 122], .seq [.rng 98 100, .chr 121]]) = false := by
  decide +kernel

/-- TEST (ii), REPAIRED (F-C02-1): a nullable alternative.
    `S <- ('a'? 'k'? / 'b' 'x' / 'c' 'y') 'z' !.` — on "bxz" the grammar takes the first
    alternative (empty) and then fails on 'z'.  A choice with an alternative that may succeed
    without consuming is not rewritten (`consumes` is the conjunction over all alternatives). -/
def G3 : Grammar := { rules := [
  { name := "S", id := 0, body := .ipush (.seq [
      .alt [.seq [.query (.chr 97), .query (.chr 107)], .seq [.chr 98, .chr 120],
            .seq [.chr 99, .chr 121]],
      .chr 122, .peekNot .dot]) "S" }] }

/-- The optimiser leaves the choice ordered, the language is unchanged … -/
example : (optimise G3).toOption.map (fun G' => (accepts G3 "bxz", accepts G' "bxz")) =
    some (false, false) := by decide +kernel
example : (optimise G3).toOption.map (fun G' => swMatchE (fun _ => none) (G3.rules.map (·.body)).head!
    (G'.rules.map (·.body)).head!) = some true := by decide +kernel      -- literally the same tree
/-- … and the checker accepts the pair. -/
example : checkOpt G3 = some true := by decide +kernel

/-- TEST of the CHECKER: the rewrite the unrepaired optimiser made of `G3` (a switch on the
    incomplete first sets; it accepts "bxz") is REJECTED. -/
def G3old : Grammar := { rules := [
  { name := "S", id := 0, body := .ipush (.seq [
      .ualt [[(98, 98)], [(99, 99)], [(97, 97), (107, 107)]]
        [.seq [.chr 98, .chr 120], .seq [.chr 99, .chr 121],
         .seq [.query (.chr 97), .query (.chr 107)]],
      .chr 122, .peekNot .dot]) "S" }] }

example : (accepts G3 "bxz", accepts G3old "bxz") = (false, true) := by decide +kernel
example : swOK G3 G3old = false := by decide +kernel

/-- TEST (ii'), REPAIRED (the `compile` part of F-C02-1),
    `S <- (([a-b] 'q' / 'c' 'w') 'z' / [d-h] 'x' / 'i' 'y') !.`
    The checker accepts the optimiser's output: the rewritten TREE is equivalent.  The defect was in
    the code EMITTED for the switch (`[a-b]` reached with `parentDetect` under the three-key case
    a,b,c skipped its test, so "cqz" was accepted); `compile` keeps the test of a range under
    `parentMultipleKey`, the emitted code is covered by `switchSafe`. -/
def G2 : Grammar := { rules := [
  { name := "S", id := 0, body := .ipush (.seq [
      .alt [.seq [.alt [.seq [.rng 97 98, .chr 113], .seq [.chr 99, .chr 119]], .chr 122],
            .seq [.rng 100 104, .chr 120], .seq [.chr 105, .chr 121]],
      .peekNot .dot]) "S" }] }

example : checkOpt G2 = some true := by decide +kernel
example : (optimise G2).toOption.map (fun G' => (accepts G2 "cqz", accepts G' "cqz")) =
    some (false, false) := by decide +kernel
/-- The emitted code tests `[a-b]` (and the machine rejects "cqz", accepts "cwz"). -/
example : (optimise G2).toOption.map (fun G' =>
    (((compileAll {} G').find "S").map (fun c =>
      c.any (fun i => match i with | .ifNotRng 97 98 _ => true | _ => false)),
     swAgree G' [99, 113, 122], swAgree G' [99, 119, 122], swAgree G' [97, 113, 122])) =
    some (some true, true, true, true) := by decide +kernel

/-- TEST (iii).  Ordered alternatives followed by a switch:
    `S <- ('a' / 'b' 'y' / 'a' 'z' / 'c' 'w') !.` — `'a'` intersects the later `'a' 'z'` and stays
    in front; it is tried before `'a' 'z'` as in the original. -/
def G4 : Grammar := { rules := [
  { name := "S", id := 0, body := .ipush (.seq [
      .alt [.chr 97, .seq [.chr 98, .chr 121], .seq [.chr 97, .chr 122], .seq [.chr 99, .chr 119]],
      .peekNot .dot]) "S" }] }

example : checkOpt G4 = some true := by decide +kernel

/-- The optimiser's form: `'a' / switch { … }`. -/
def G4hand (os : List Expr) (ks : List KeySet) (us : List Expr) : Grammar := { rules := [
  { name := "S", id := 0, body := .ipush (.seq [.alt (os ++ [.ualt ks us]), .peekNot .dot]) "S" }] }

example : swOK G4 (G4hand [.chr 97] [[(98, 98)], [(97, 97)], [(99, 99)]]
    [.seq [.chr 98, .chr 121], .seq [.chr 97, .chr 122], .seq [.chr 99, .chr 119]]) = true := by
  decide +kernel
/-- TEST: a WRONG form, `'a' 'z'` moved in front of `'a'` (on "az" the original fails at `!.`, this
    one accepts): the order-reversal guard rejects it. -/
example : swOK G4 (G4hand [.seq [.chr 97, .chr 122]] [[(98, 98)], [(97, 97)], [(99, 99)]]
    [.seq [.chr 98, .chr 121], .chr 97, .seq [.chr 99, .chr 119]]) = false := by
  decide +kernel
example : (accepts G4 "az", accepts (G4hand [.seq [.chr 97, .chr 122]] [[(98, 98)], [(97, 97)], [(99, 99)]]
    [.seq [.chr 98, .chr 121], .chr 97, .seq [.chr 99, .chr 119]]) "az") = (false, true) := by
  decide +kernel

/-- TEST (iv).  Rule references, a nested rewritten choice, lookahead-first alternatives:
    `S <- (A 'x' / B S / !'q' [m-p] / &{ok} 'r') !.   A <- 'a' / 'e' / [f-g]   B <- 'b'` -/
def G5 : Grammar := { rules := [
  { name := "S", id := 0, body := .ipush (.seq [
      .alt [.seq [.name "A", .chr 120], .seq [.name "B", .query (.name "S")],
            .seq [.peekNot (.chr 113), .rng 109 112], .seq [.pred "ok", .chr 114]],
      .peekNot .dot]) "S" },
  { name := "A", id := 1, body := .ipush (.alt [.chr 97, .chr 101, .rng 102 103]) "A" },
  { name := "B", id := 2, body := .ipush (.chr 98) "B" }] }

example : checkOpt G5 = some true := by decide +kernel

/-- TEST (v).  The grammar of peg itself (`peg.peg`, 51 rules; 103 after `link`): the optimiser
    rewrites choices in 7 rules (ImportName, Prefix, Suffix, Primary, IdentStart, Escape, Space)
    and the checker accepts the result — so `-switch` is validated for the bootstrap grammar. -/
def pegG : Grammar := (linkGrammar pegFrontRules).G

mutual
  def hasSwitch : Expr → Bool
    | .ualt _ _ => true
    | .inl _ e | .peekFor e | .peekNot e | .query e | .star e | .plus e | .push e _ | .ipush e _ =>
      hasSwitch e
    | .seq es | .alt es => hasSwitchL es
    | _ => false
  def hasSwitchL : List Expr → Bool
    | [] => false
    | e :: es => hasSwitch e || hasSwitchL es
end

#guard WFB pegG
#guard checkOpt pegG == some true
#guard (optimise pegG).toOption.map (fun G' => (G'.rules.filter (fun r => hasSwitch r.body)).length)
  == some 7

/-! ## TESTS: replay grammars (1)–(8) of the three repairs of `tree/peg.go`

  For each grammar: the default parser's side conditions hold, `optimise` succeeds and its output
  passes `switchSafe` — so `C02_switch_same_as_default` applies to the repaired optimiser's output:
  the `-switch` parser and the default parser agree on every input. -/

/-- `optimise G` succeeds and its output passes the end-to-end side condition. -/
def safeOpt (G : Grammar) : Option Bool := (optimise G).toOption.map (switchSafe G)

/-- Was some choice rewritten into a switch? -/
def rewritten (G : Grammar) : Option Bool :=
  (optimise G).toOption.map (fun G' => G'.rules.any (fun r => hasSwitch r.body))

/-- The hypotheses of `C02_switch_same_as_default` about the source grammar. -/
def defaultOK (G : Grammar) : Bool :=
  WFB G && GrammarOK G && LinkedOK G && G.rules.all (fun r => r.body.plain)

def mkS (alts tail : List Expr) : Grammar := { rules := [
  { name := "S", id := 0, body := .ipush (.seq (.alt alts :: tail)) "S" }] }

/-- (1) `S <- ('a'? 'k'? / 'b' 'x' / 'c' 'y') 'z' !.` = `G3`: nullable alternative, not rewritten. -/
example : (defaultOK G3, safeOpt G3, rewritten G3) = (true, some true, some false) := by decide +kernel

/-- (2) `S <- (&'q' / 'b' 'x' / 'c' 'y') 'z' !.`: lookahead-only alternative, not rewritten. -/
def Rp2 : Grammar := mkS [.peekFor (.chr 113), .seq [.chr 98, .chr 120], .seq [.chr 99, .chr 121]]
  [.chr 122, .peekNot .dot]
example : (defaultOK Rp2, safeOpt Rp2, rewritten Rp2) = (true, some true, some false) := by decide +kernel

/-- (3) `S <- (([a-b] 'q' / 'c' 'w') 'z' / [d-h] 'x' / 'i' 'y') !.` = `G2`: rewritten, the range
    under the multi-key case keeps its test. -/
example : (defaultOK G2, safeOpt G2, rewritten G2) = (true, some true, some true) := by decide +kernel

/-- (4) `S <- ([a-b]* 'x' 'q' / 'c' 'w' / [k-t] 'v') !.`: all three alternatives consume, the choice
    IS rewritten; `e*` compiles its body without `parentDetect`. -/
def Rp4 : Grammar := mkS [.seq [.star (.rng 97 98), .chr 120, .chr 113], .seq [.chr 99, .chr 119],
  .seq [.rng 107 116, .chr 118]] [.peekNot .dot]
example : (defaultOK Rp4, safeOpt Rp4, rewritten Rp4) = (true, some true, some true) := by decide +kernel
/-- The `[a-b]*` alternative is a non-default case with the keys a, b, x (as observed on the real
    repaired generator) … -/
example : (optimise Rp4).toOption.map (fun G' => swMatchL (fun _ => none) (G'.rules.map (·.body)) [
    .ipush (.seq [.ualt [[(99, 99)], [(97, 98), (120, 120)], [(107, 116)]]
      [.seq [.chr 99, .chr 119], .seq [.star (.rng 97 98), .chr 120, .chr 113],
       .seq [.rng 107 116, .chr 118]], .peekNot .dot]) "S"]) = some true := by decide +kernel
/-- … and the code of the star body contains the range test: it is not elided. -/
example : (optimise Rp4).toOption.map (fun G' => ((compileAll {} G').find "S").map (fun c =>
    c.any (fun i => match i with | .ifNotRng 97 98 _ => true | _ => false))) = some (some true) := by
  decide +kernel
example : (optimise Rp4).toOption.map (fun G' =>
    [[97, 98, 97, 120, 113], [120, 113], [97, 99], [99, 119], [108, 118], [97], []].all (swAgree G')) =
    some true := by decide +kernel

/-- (5) `S <- (![a-b] [a-c] 'q' / 'd' 'w' / [k-t] 'v') !.`: `!e` compiles `e` without the flags. -/
def Rp5 : Grammar := mkS [.seq [.peekNot (.rng 97 98), .rng 97 99, .chr 113], .seq [.chr 100, .chr 119],
  .seq [.rng 107 116, .chr 118]] [.peekNot .dot]
example : (defaultOK Rp5, safeOpt Rp5, rewritten Rp5) = (true, some true, some true) := by decide +kernel
example : (optimise Rp5).toOption.map (fun G' =>
    [[99, 113], [97, 113], [98, 113], [100, 119], [107, 118]].map (fun i => (swAgree G' i, accepts' G' i))) =
    some [(true, true), (true, false), (true, false), (true, true), (true, true)] := by decide +kernel

/-- (6) `S <- (&[b-c] 'a' 'q' / 'd' 'w' / [k-t] 'v') !.`: `&e` compiles `e` without the flags. -/
def Rp6 : Grammar := mkS [.seq [.peekFor (.rng 98 99), .chr 97, .chr 113], .seq [.chr 100, .chr 119],
  .seq [.rng 107 116, .chr 118]] [.peekNot .dot]
example : (defaultOK Rp6, safeOpt Rp6, rewritten Rp6) = (true, some true, some true) := by decide +kernel
example : (optimise Rp6).toOption.map (fun G' =>
    [[97, 113], [98, 113], [100, 119], [107, 118]].map (fun i => (swAgree G' i, accepts' G' i))) =
    some [(true, false), (true, false), (true, true), (true, true)] := by decide +kernel

/-- (7) recursion, `S <- C !.  C <- 'c' A / 'k'  A <- C 'x' D / 'y'  D <- A 'z' / 'c' 'w' / 'd' 'v'`:
    while `A` is analysed (`reached`, not `done`) the reference to it from `D` answers "does not
    consume, any character", so the choice of `D` stays ordered. -/
def Rp7 : Grammar := { rules := [
  { name := "S", id := 0, body := .ipush (.seq [.name "C", .peekNot .dot]) "S" },
  { name := "C", id := 1, body := .ipush (.alt [.seq [.chr 99, .name "A"], .chr 107]) "C" },
  { name := "A", id := 2, body := .ipush (.alt [.seq [.name "C", .chr 120, .name "D"], .chr 121]) "A" },
  { name := "D", id := 3, body := .ipush (.alt [.seq [.name "A", .chr 122], .seq [.chr 99, .chr 119],
      .seq [.chr 100, .chr 118]]) "D" }] }
example : (defaultOK Rp7, safeOpt Rp7, rewritten Rp7) = (true, some true, some false) := by decide +kernel
/-- "ccyxcw": `D` must try `A 'z'` first ('c' is also the first character of `A`) -/
example : (optimise Rp7).toOption.map (fun G' => (accepts G' "ccyxcw", accepts Rp7 "ccyxcw",
    accepts G' "ccyxyz", accepts Rp7 "ccyxyz")) = some (true, true, true, true) := by decide +kernel

/-- (8) A rule that is `done` is still answered from the cache, and rewrites behind a recursion still
    happen: `S <- A !.  A <- 'a' A / B   B <- 'b' 'x' / 'c' 'y' / 'd' 'z'`. -/
def Rp8 : Grammar := { rules := [
  { name := "S", id := 0, body := .ipush (.seq [.name "A", .peekNot .dot]) "S" },
  { name := "A", id := 1, body := .ipush (.alt [.seq [.chr 97, .name "A"], .name "B"]) "A" },
  { name := "B", id := 2, body := .ipush (.alt [.seq [.chr 98, .chr 120], .seq [.chr 99, .chr 121],
      .seq [.chr 100, .chr 122]]) "B" }] }
example : (defaultOK Rp8, safeOpt Rp8, rewritten Rp8) = (true, some true, some true) := by decide +kernel

-- The bootstrap grammar passes the end-to-end check as well.
#guard safeOpt pegG == some true

end SwitchTests
end PegVerif

#print axioms PegVerif.C02_switch_validated
#print axioms PegVerif.C02_switch_validated_iff
#print axioms PegVerif.C02_switch_optimise

#print axioms PegVerif.C02_switch_parser
#print axioms PegVerif.C02_switch_same_as_default
