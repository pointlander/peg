import PegVerif.Proofs.ErrorLemmas
/-
  C11, second sentence: "Its message reports the correct 1-based line and column for both the
  begin and the end of that token and quotes exactly the input text between them, and producing
  the message never panics, for any input including empty input and failures at offset zero or
  at end of input."

  Subject: `translatePositions` and `(*parseError[U]).Error()` of `tree/peg.go.tmpl`, transcribed
  in `PegVerif/Model/Error.lean`; specification `lineCol` (same file, independent of the loop).
  All theorems are unbounded (all buffers, all offsets); they hold of the template with its two
  fixes 4b35db9 and 88ac174.

  The buffer is the runtime's rune buffer: `[]rune(p.Buffer)` plus the sentinel `END`, so it is
  never empty and the valid offsets are `0 … buffer.length - 1` (the last = end of input).
-/
namespace PegVerif

/-! ## translatePositions -/

/-- Every requested position inside the buffer is translated to its 1-based line and column;
    the list may be unsorted and may contain duplicates; no panic. -/
theorem translate_spec : ∀ (buffer : List Sym) (positions : List Nat),
    positions ≠ [] → (∀ p ∈ positions, p < buffer.length) →
    ∃ m, translatePositions buffer positions = some m ∧
      ∀ p ∈ positions, lookupD m p = lineCol buffer p := by
  intro buffer positions hne hin
  let ps := positions.mergeSort (fun a b => decide (a ≤ b))
  have hperm : ps.Perm positions := List.mergeSort_perm _ _
  have hlen : ps.length = positions.length := List.length_mergeSort _
  have hs : ps.Pairwise (fun a b => a ≤ b) := by
    have := List.pairwise_mergeSort (le := fun (a b : Nat) => decide (a ≤ b))
      (by intro a b c; simp; omega) (by intro a b; simp; omega) positions
    simpa using this
  have hpos : 0 < ps.length := by
    rw [hlen]; exact List.length_pos_iff.mpr hne
  obtain ⟨m, hm1, hm2⟩ := tpLoop_spec buffer ps hs (fun p hp => hin p (hperm.mem_iff.mp hp))
    buffer 0 0 1 0 [] rfl (lineCol_zero buffer).symm hpos (Nat.zero_le _) (by intro j p hj; omega)
  refine ⟨m, ?_, fun p hp => hm2 p (hperm.mem_iff.mpr hp)⟩
  unfold translatePositions
  rw [← hlen]
  exact hm1

/-- hypotheses satisfiable non-trivially: unsorted, with duplicates, multi-line, a position on a
    newline and one on the sentinel. -/
example : ∃ (buffer : List Sym) (positions : List Nat),
    positions ≠ [] ∧ (∀ p ∈ positions, p < buffer.length) ∧
    ¬ positions.Pairwise (· ≤ ·) ∧ ¬ positions.Nodup ∧
    buffer[1]? = some NL ∧ 1 ∈ positions ∧ buffer.length - 1 ∈ positions :=
  ⟨[97, NL, 98, END], [3, 1, 1, 0], by decide⟩

/-- … and the conclusion on that witness, spelled out. -/
example : ∃ m, translatePositions [97, NL, 98, END] [3, 1, 1, 0] = some m ∧
    lookupD m 0 = (1, 1) ∧ lookupD m 1 = (1, 2) ∧ lookupD m 3 = (2, 2) := by
  obtain ⟨m, h, hm⟩ := translate_spec [97, NL, 98, END] [3, 1, 1, 0] (by decide) (by decide)
  exact ⟨m, h, by rw [hm 0 (by decide)]; decide, by rw [hm 1 (by decide)]; decide,
    by rw [hm 3 (by decide)]; decide⟩

/-! ## Error() -/

/-- `Error()` inside the hypotheses: never `none`, and the text is the format applied to the
    specification's line/column of both ends and the quoted slice `buffer[b:e]`.  The only theorem
    that uses `translate_spec`; everything below about `Error()` is this equation rewritten. -/
theorem errorString_eq (ruleName : String) (buffer : List Sym) (b e : Nat) (pretty : Bool)
    (quote : List Sym → String) (hbe : b ≤ e) (he : e < buffer.length) :
    errorString ruleName buffer b e pretty quote =
      some ("\n" ++ errFormat pretty ruleName (lineCol buffer b).1 (lineCol buffer b).2
        (lineCol buffer e).1 (lineCol buffer e).2 (quote ((buffer.take e).drop b))) := by
  obtain ⟨m, hm, hl⟩ := translate_spec buffer [b, e] (List.cons_ne_nil _ _)
    (by intro p hp; simp at hp; omega)
  simp only [errorString, hm, goSlice_some hbe (Nat.le_of_lt he), hl b (by simp), hl e (by simp)]

theorem error_no_panic (ruleName : String) (buffer : List Sym) (b e : Nat) (pretty : Bool)
    (quote : List Sym → String) :
    b ≤ e → e < buffer.length → (errorString ruleName buffer b e pretty quote).isSome := by
  intro hbe he
  rw [errorString_eq _ _ _ _ _ _ hbe he]
  rfl

example : ∃ (buffer : List Sym) (b e : Nat), b ≤ e ∧ e < buffer.length ∧ b ≠ e :=
  ⟨[97, NL, 98, END], 1, 3, by decide⟩

/-- The message, plain variant: exact text, with (L1,C1) = `lineCol buffer b`,
    (L2,C2) = `lineCol buffer e` and the quoted slice `buffer[b:e]`. -/
theorem error_spec (ruleName : String) (buffer : List Sym) (b e : Nat)
    (quote : List Sym → String) (hbe : b ≤ e) (he : e < buffer.length) :
    errorString ruleName buffer b e false quote =
      some ("\nparse error near " ++ ruleName ++
        " (line " ++ toString (lineCol buffer b).1 ++ " symbol " ++ toString (lineCol buffer b).2 ++
        " - line " ++ toString (lineCol buffer e).1 ++ " symbol " ++ toString (lineCol buffer e).2 ++
        "):\n" ++ quote ((buffer.take e).drop b) ++ "\n") := by
  rw [errorString_eq _ _ _ _ _ _ hbe he]
  simp only [errFormat, Bool.false_eq_true, ↓reduceIte, ← String.append_assoc, String.reduceAppend]

/-- The message, `Pretty` variant (rule name in blue). -/
theorem error_spec_pretty (ruleName : String) (buffer : List Sym) (b e : Nat)
    (quote : List Sym → String) (hbe : b ≤ e) (he : e < buffer.length) :
    errorString ruleName buffer b e true quote =
      some ("\nparse error near \x1B[34m" ++ ruleName ++
        "\x1B[m (line " ++ toString (lineCol buffer b).1 ++ " symbol " ++ toString (lineCol buffer b).2 ++
        " - line " ++ toString (lineCol buffer e).1 ++ " symbol " ++ toString (lineCol buffer e).2 ++
        "):\n" ++ quote ((buffer.take e).drop b) ++ "\n") := by
  rw [errorString_eq _ _ _ _ _ _ hbe he]
  simp only [errFormat, ↓reduceIte, ← String.append_assoc, String.reduceAppend]

/-- The quoted slice is exactly the runes at offsets `b, …, e-1` of the buffer. -/
theorem error_quote (buffer : List Sym) (b e : Nat) (hbe : b ≤ e) (he : e < buffer.length) :
    ∃ sl, goSlice buffer b e = some sl ∧ sl = (buffer.take e).drop b ∧ sl.length = e - b ∧
      ∀ k, k < e - b → sl[k]? = buffer[b + k]? := by
  refine ⟨_, goSlice_some hbe (Nat.le_of_lt he), rfl, ?_, fun k hk => ?_⟩
  · simp
    omega
  · rw [List.getElem?_drop, List.getElem?_take]
    simp
    omega

/-- With `buffer = input ++ [END]` and the token inside the input (`e ≤ input.length`, which is
    `e < buffer.length`): the quoted text is a slice of the *input* — the sentinel is never
    quoted — and the positions are those of the input alone. -/
theorem error_quote_input (input : List Sym) (b e : Nat) (hbe : b ≤ e) (he : e ≤ input.length) :
    goSlice (input ++ [END]) b e = some ((input.take e).drop b) ∧
    lineCol (input ++ [END]) b = lineCol input b ∧
    lineCol (input ++ [END]) e = lineCol input e := by
  refine ⟨?_, lineCol_append _ _ _ (by omega), lineCol_append _ _ _ he⟩
  rw [goSlice_some hbe (by simp; omega), List.take_append_of_le_length he]

example : ∃ (input : List Sym) (b e : Nat), b ≤ e ∧ e ≤ input.length ∧ b ≠ e ∧ input ≠ [] :=
  ⟨[97, NL, 98], 1, 3, by decide⟩

/-! ## Edge cases, as corollaries -/

/-- Failure at offset zero (empty token at the very beginning) on any input. -/
theorem error_offset_zero (ruleName : String) (buffer : List Sym) (quote : List Sym → String)
    (h : 0 < buffer.length) :
    errorString ruleName buffer 0 0 false quote =
      some ("\nparse error near " ++ ruleName ++
        " (line 1 symbol 1 - line 1 symbol 1):\n" ++ quote [] ++ "\n") := by
  -- the statement spells the numerals inside one literal; split it where `toString 1` goes
  have h0 : toString (1 : Nat) = "1" := rfl
  have h1 : " (line 1 symbol 1 - line 1 symbol 1):\n" = " (line " ++ "1" ++ " symbol " ++
      "1" ++ " - line " ++ "1" ++ " symbol " ++ "1" ++ "):\n" := by simp only [String.reduceAppend]
  rw [error_spec ruleName buffer 0 0 quote (Nat.le_refl _) h, lineCol_zero]
  simp only [h0, h1, List.take_zero, List.drop_nil, String.append_assoc]

/-- Empty input: the buffer is just the sentinel and the only possible token is `[0,0)`. -/
theorem error_empty_input (ruleName : String) (quote : List Sym → String) :
    errorString ruleName [END] 0 0 false quote =
      some ("\nparse error near " ++ ruleName ++
        " (line 1 symbol 1 - line 1 symbol 1):\n" ++ quote [] ++ "\n") :=
  error_offset_zero ruleName [END] quote (Nat.zero_lt_succ _)

/-- Token ending at end of input (`e` = offset of the sentinel = `buffer.length - 1`): no panic,
    the whole rest of the input is quoted, and the end position is that of the sentinel. -/
theorem error_end_of_input (ruleName : String) (input : List Sym) (b : Nat)
    (quote : List Sym → String) (hb : b ≤ input.length) :
    errorString ruleName (input ++ [END]) b input.length false quote =
      some ("\nparse error near " ++ ruleName ++
        " (line " ++ toString (lineCol input b).1 ++ " symbol " ++ toString (lineCol input b).2 ++
        " - line " ++ toString (1 + input.count NL) ++
        " symbol " ++ toString (1 + colAfterLastNL input) ++
        "):\n" ++ quote (input.drop b) ++ "\n") := by
  rw [error_spec ruleName (input ++ [END]) b input.length quote hb (by simp),
    lineCol_append _ _ _ hb, lineCol_at_prefix, List.take_left' rfl]

/-- An offset that holds a `'\n'` is reported at the end of its own line (column = 1 + length of
    the line so far), and the offset after it at column 1 of the next line. -/
theorem lineCol_on_newline (pre rest : List Sym) :
    lineCol (pre ++ NL :: rest) pre.length = (1 + pre.count NL, 1 + colAfterLastNL pre) ∧
    lineCol (pre ++ NL :: rest) (pre.length + 1) = (2 + pre.count NL, 1) := by
  refine ⟨lineCol_at_prefix _ _, ?_⟩
  rw [lineCol_succ _ _ (by simp)]
  simp [lineCol_at_prefix]
  omega

/-- `lineCol` is the usual line/column: (1,1) at offset 0; after a newline the line number goes
    up and the column restarts at 1; after any other rune the column goes up. -/
theorem lineCol_recurrence (buffer : List Sym) :
    lineCol buffer 0 = (1, 1) ∧
    ∀ off (h : off < buffer.length), lineCol buffer (off + 1) =
      if buffer[off] = NL then ((lineCol buffer off).1 + 1, 1)
      else ((lineCol buffer off).1, (lineCol buffer off).2 + 1) :=
  ⟨lineCol_zero buffer, fun off h => lineCol_succ buffer off h⟩

/-- Multi-line, token from a `'\n'` to end of input: input "ab\ncd\n\nz", token [2, 8). -/
example (quote : List Sym → String) :
    errorString "S" [97, 98, NL, 99, 100, NL, NL, 122, END] 2 8 false quote =
      some ("\nparse error near S (line 1 symbol 3 - line 4 symbol 2):\n" ++
        quote [NL, 99, 100, NL, NL, 122] ++ "\n") := by
  rw [error_spec _ _ _ _ _ (by decide) (by decide)]
  rfl

/-- Multi-line, `Pretty`, empty token sitting on the second of two consecutive newlines. -/
example (quote : List Sym → String) :
    errorString "S" [97, 98, NL, 99, 100, NL, NL, 122, END] 6 6 true quote =
      some ("\nparse error near \x1B[34mS\x1B[m (line 3 symbol 1 - line 3 symbol 1):\n" ++
        quote [] ++ "\n") := by
  rw [error_spec_pretty _ _ _ _ _ (by decide) (by decide)]
  rfl

/-- Outside the hypotheses the Go code does panic, and the model says so: `begin > end`
    (slice bounds out of range). -/
example (quote : List Sym → String) : errorString "S" [97, 98, END] 2 1 false quote = none := by
  have ⟨m, hm, _⟩ := translate_spec [97, 98, END] [2, 1] (by decide) (by decide)
  simp [errorString, hm, goSlice]

#print axioms translate_spec
#print axioms error_no_panic
#print axioms error_spec
#print axioms error_spec_pretty
#print axioms error_quote
#print axioms error_quote_input
#print axioms error_empty_input
#print axioms error_offset_zero
#print axioms error_end_of_input
#print axioms lineCol_on_newline
#print axioms lineCol_recurrence

end PegVerif
