import PegVerif.Proofs.CliTable
/-
  C18 — "peg exits with status zero only when it has written a complete generated parser to the
  requested destination …; a missing or unreadable grammar, a grammar syntax error, or an
  unwritable destination produces a non-zero exit and a message, with or without -strict."

  All statements quantify over every `Scenario` (the finite table `Scenario.all`, 18432 rows, of
  Model/Cli.lean); what they rest on is said at the head of Proofs/CliTable.lean.
-/
namespace PegVerif.Cli

/-! ### exit 0 ⇒ complete parser at the requested destination -/

/-- The first half of C18. -/
def C18_exit0_complete_stmt : Prop :=
  ∀ s : Scenario, (cli s).exit = 0 → s.version = false →
    (cli s).written = .complete ∧ (cli s).destination = some (requested s)

/-- The scenario on which the statement FAILED before commit 04693db (`peg -syntax -output - g.peg`:
    dump and parser both on standard output, exit 0); kept as a regression witness. -/
def dumpToStdout : Scenario :=
  { source := .fileOk, grammar := .validSilent, dest := .stdoutDash, strict := false,
    inline := false, switch := false, noast := false, mode := .dump }

theorem dumpToStdout_outcome :
    cli dumpToStdout = ⟨0, true, .complete, some .stdout⟩ := by decide

/-- **C18, first half**: exit status 0 (other than for -version) only with a
    complete parser at the requested destination. -/
theorem C18_exit0_complete : C18_exit0_complete_stmt := fun s h0 hv =>
  have hs : Succeeds s := ((cli_exit0_iff hv).1 h0).1
  ⟨(cli_complete_iff hv).2 hs, cli_dest_of_succeeds hv hs⟩

/-- Exit 0 without a complete parser happens only for -version. -/
theorem C18_exit0_incomplete_iff :
    ∀ s : Scenario, ((cli s).exit = 0 ∧ (cli s).written ≠ .complete) ↔ s.version = true := by
  intro s
  cases hv : s.version
  · simpa using fun h0 => (C18_exit0_complete s h0 hv).1
  · simp [cli_version hv]

/-- Whatever a run with exit status 0 touched is the requested destination. -/
theorem C18_exit0_destination :
    ∀ s : Scenario, (cli s).exit = 0 → s.version = false →
      (cli s).destination = some (requested s) :=
  fun s h0 hv => (C18_exit0_complete s h0 hv).2

/-! ### errors ⇒ non-zero exit and a message, with or without -strict -/

theorem C18_stderr_of_nonzero :
    ∀ s : Scenario, (cli s).exit ≠ 0 → (cli s).stderrNonEmpty = true := by
  intro s
  obtain ⟨e, w, h, hmsg, _⟩ := cli_eq_observe s
  rw [h, observe_exit, observe_stderr]
  exact hmsg

theorem cli_of_not_succeeds {s : Scenario} (hv : s.version = false) (h : ¬ Succeeds s) :
    (cli s).exit ≠ 0 ∧ (cli s).stderrNonEmpty = true ∧ (cli s).written ≠ .complete :=
  have h0 : (cli s).exit ≠ 0 := fun h0 => h ((cli_exit0_iff hv).1 h0).1
  ⟨h0, C18_stderr_of_nonzero s h0, fun hc => h ((cli_complete_iff hv).1 hc)⟩

theorem C18_error_nonzero :
    ∀ s : Scenario, s.version = false →
      (badSource s = true ∨ syntaxBad s = true ∨ badDest s = true) →
      (cli s).exit ≠ 0 ∧ (cli s).stderrNonEmpty = true ∧ (cli s).written ≠ .complete := by
  intro s hv hb
  refine cli_of_not_succeeds hv fun ⟨h1, h2, h3⟩ => ?_
  simp [h1, h2, syntaxBad] at hb
  rcases h3 with h3 | ⟨h3, _⟩ <;> simp [h3] at hb

/-- The same for the two `Compile` errors of the table (duplicate rule, generated text not Go). -/
theorem C18_compile_error_nonzero :
    ∀ s : Scenario, s.version = false →
      (s.grammar = .duplicateRule ∨ s.grammar = .invalidGo) →
      (cli s).exit ≠ 0 ∧ (cli s).stderrNonEmpty = true ∧ (cli s).written ≠ .complete := by
  intro s hv hb
  refine cli_of_not_succeeds hv fun ⟨_, _, h3⟩ => ?_
  rcases h3 with h3 | ⟨h3, _⟩ <;> simp [h3] at hb

/-- `-strict` does not matter for any of these errors: the whole outcome is the same. -/
theorem C18_error_strict_irrelevant :
    ∀ s : Scenario,
      (badSource s = true ∨ syntaxBad s = true ∨ badDest s = true ∨
        s.grammar = .duplicateRule ∨ s.grammar = .invalidGo) →
      cli { s with strict := true } = cli { s with strict := false } := by
  intro s h
  by_cases hg : s.grammar = .validWarn
  · refine warn_strict s hg ?_
    simpa [syntaxBad, hg] using h
  · exact (cli_strict hg true).trans (cli_strict hg false).symm

/-- Exact characterisation of exit status 0. -/
theorem C18_exit0_iff :
    ∀ s : Scenario, (cli s).exit = 0 ↔
      (s.version = true ∨
        (badSource s = false ∧ badDest s = false ∧
          (s.grammar = .validSilent ∨ (s.grammar = .validWarn ∧ s.strict = false)) ∧
          (s.closeFails = false ∨ opensFile s = false))) := by
  intro s
  cases hv : s.version
  · simpa [Succeeds, CloseOk, and_assoc] using cli_exit0_iff hv
  · simp [cli_version hv]

/-- Exit status 2 (panic in `closeAll`) needs a failing `Close`. -/
theorem C18_exit_le_one_of_close_ok :
    ∀ s : Scenario, s.closeFails = false → (cli s).exit ≤ 1 := by
  intro s hc
  obtain ⟨e, w, h, _, hpanic⟩ := cli_eq_observe s
  rw [h, observe_exit]
  exact Nat.le_of_not_lt fun h2 => parse_ne_panic hc (hpanic h2)

/-! ### -inline / -switch / -noast do not influence the outcome -/

theorem C18_flags_irrelevant :
    ∀ (s : Scenario) (i sw na : Bool),
      cli { s with inline := i, switch := sw, noast := na } = cli s := by
  intro s i sw na
  rw [cli_norm, cli_norm s]
  cases s; rfl

theorem C18_strict_warning :
    ∀ s : Scenario, s.version = false → s.grammar = .validWarn → s.strict = true →
      (cli s).exit ≠ 0 ∧ (cli s).stderrNonEmpty = true ∧ (cli s).written ≠ .complete := by
  intro s hv hg hs
  refine cli_of_not_succeeds hv fun ⟨_, _, h3⟩ => ?_
  simp [hg, hs] at h3

/-- Without -strict a warned grammar behaves like a silent one plus a message (in a sane
    environment: source readable, destination writable, `Close` works). -/
theorem C18_nonstrict_warning :
    ∀ s : Scenario, s.version = false → s.grammar = .validWarn → s.strict = false →
      badSource s = false → badDest s = false → s.closeFails = false →
      (cli s).exit = 0 ∧ (cli s).stderrNonEmpty = true ∧
      (cli s).destination = some (requested s) ∧ (cli s).written = .complete := by
  intro s hv hg hs h1 h2 hc
  have ok : Succeeds s := ⟨h1, h2, .inr ⟨hg, hs⟩⟩
  exact ⟨(cli_exit0_iff hv).2 ⟨ok, .inl hc⟩, (cli_stderr_iff hv ok).2 (.inr (.inl hg)),
    cli_dest_of_succeeds hv ok, (cli_complete_iff hv).2 ok⟩

/-- A silent grammar in a sane environment: exit 0 and nothing on standard error. -/
theorem C18_silent_ok :
    ∀ s : Scenario, s.version = false → s.grammar = .validSilent →
      badSource s = false → badDest s = false → s.closeFails = false →
      (cli s).exit = 0 ∧ ((s.dump = false ∨ requested s ≠ .stdout) → (cli s).stderrNonEmpty = false) ∧
      (cli s).destination = some (requested s) ∧ (cli s).written = .complete := by
  intro s hv hg h1 h2 hc
  have ok : Succeeds s := ⟨h1, h2, .inl hg⟩
  refine ⟨(cli_exit0_iff hv).2 ⟨ok, .inl hc⟩, fun h => ?_, cli_dest_of_succeeds hv ok,
    (cli_complete_iff hv).2 ok⟩
  -- no panic, no warning, and by `h` no dump next to a parser on standard output
  apply Bool.eq_false_iff.2
  intro h'
  rcases (cli_stderr_iff hv ok).1 h' with hp | hw' | ⟨hdump, hreq⟩
  · exact hp (.inl hc)
  · simp [hg] at hw'
  · rcases h with h | h
    · simp [hdump] at h
    · exact h hreq

/-- `destination = none` exactly when nothing was written. -/
theorem C18_destination_none_iff :
    ∀ s : Scenario, (cli s).destination = none ↔ (cli s).written = .nothing := by
  intro s
  obtain ⟨e, w, h, _⟩ := cli_eq_observe s
  rw [h]
  exact observe_destination_none_iff e w

end PegVerif.Cli

open PegVerif.Cli in
#print axioms C18_exit0_complete
open PegVerif.Cli in
#print axioms C18_exit0_incomplete_iff
open PegVerif.Cli in
#print axioms C18_exit0_destination
open PegVerif.Cli in
#print axioms C18_error_nonzero
open PegVerif.Cli in
#print axioms C18_compile_error_nonzero
open PegVerif.Cli in
#print axioms C18_error_strict_irrelevant
open PegVerif.Cli in
#print axioms C18_exit0_iff
open PegVerif.Cli in
#print axioms C18_exit_le_one_of_close_ok
open PegVerif.Cli in
#print axioms C18_stderr_of_nonzero
open PegVerif.Cli in
#print axioms C18_flags_irrelevant
open PegVerif.Cli in
#print axioms C18_strict_warning
open PegVerif.Cli in
#print axioms C18_nonstrict_warning
open PegVerif.Cli in
#print axioms C18_silent_ok
open PegVerif.Cli in
#print axioms C18_destination_none_iff
