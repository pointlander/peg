import PegVerif.Props.C01
import PegVerif.Proofs.WorldInline
/-
  C02 — `-inline` does not change what the generated parser accepts or publishes.

  `-inline` compiles a rule that has exactly one reference in place of that reference and emits no
  function for it (`slotOf`), except for the rule emitted with label 0.  In the model this is the
  source transformation `expandInline` (`name n ↦ inl n body`); `expandG o G` is the grammar whose
  bodies are the expanded ones.  The emitted program is judged against the semantics of the ORIGINAL
  grammar.
-/
namespace PegVerif

theorem C02_semantics_deterministic {G ρ inp e p r1 ev1 r2 ev2}
    (h1 : Eval G ρ inp e p r1 ev1) (h2 : Eval G ρ inp e p r2 ev2) : r1 = r2 ∧ ev1 = ev2 :=
  Eval_det h1 h2

/-- The source transformation of `-inline` preserves the PEG semantics of every expression: same
    result, same derivation forest, same attempted tokens. -/
theorem C02_inline_preserves_semantics (o : Opts) (G : Grammar) (ρ : String → Nat → Bool)
    (inp : List Sym) (e : Expr) (p : Nat) (res : Res) (evs : List Token) :
    Eval (expandG o G) ρ inp e p res evs ↔ Eval G ρ inp e p res evs :=
  Eval_expandG_iff

/-- … and an expanded expression means what the expression means. -/
theorem C02_expandInline_preserves_semantics (o : Opts) (G : Grammar) (ρ : String → Nat → Bool)
    (inp : List Sym) (cnt : String → Nat) (fuel : Nat) (e : Expr) (p : Nat) (res : Res)
    (evs : List Token) :
    Eval (expandG o G) ρ inp (expandInline G cnt fuel e) p res evs ↔ Eval G ρ inp e p res evs :=
  ⟨fun h => Eval_exp (bodiesExp_expandG_rev o G) h (expandInline_exp G G _ cnt fuel e).2,
   fun h => Eval_exp (bodiesExp_expandG o G) h (expandInline_exp G _ G cnt fuel e).1⟩

/-- **C02 for the generator itself** (`-inline`, no `-switch`, AST mode, memoisation on or off): each
    run of a function the MODEL GENERATOR emits with `-inline` returns true exactly when the PEG
    semantics OF THE ORIGINAL GRAMMAR matches a prefix, stops at the end of exactly that prefix, and
    publishes exactly the post-order of the derivation forest — what the default parser satisfies by
    `C01_generated_parser` / `C03_tokens`.  `GrammarOKI`: terminals below the end symbol, and every
    reference left in an expanded body of an emitted rule is to a rule that keeps its function. -/
theorem C02_inline_generated_parser (G : Grammar) (o : Opts) (cfg : Cfg) (inp : List Sym)
    (hinl : o.inline = true) (hsw : o.switch = false) (hast : o.ast = true)
    (hcfg : cfg.ast = true)
    (hinp : ∀ c ∈ inp, c ≠ END) (hG : GrammarOKI G = true) (hL : LinkedOK G = true) (hplain : G.plain)
    {n cr res evs out s'} (hfind : (compileAll o G).find n = some cr)
    (hev : Eval G cfg.rho inp (.name n) 0 res evs)
    (hrun : Exec (compileAll o G) cfg inp cr 0 St.init Frame.empty (out, s')) :
    (out = .ret true ↔ ∃ p' f, res = .ok p' f) ∧
    (∀ p' f, res = .ok p' f → s'.pos = p' ∧ s'.tree.take s'.ti = postorderL f) ∧
    (out = .ret false ↔ res = .fail) ∧ out ≠ .panic := by
  have hW := compileAll_world_inline' (cfg := cfg) (inp := inp) hinl hsw hast hcfg hinp hG hL hplain
  have h := R_afterReset hW afterReset_init hfind (Eval_expandG hev) hrun
  obtain ⟨ht, hpos, hf, hnp⟩ := h.fresh
  refine ⟨ht, fun p' f e => ⟨hpos p' f e, ?_⟩, hf, hnp⟩
  subst e
  exact h.toks

/-- … and such a run exists: the `-inline` parser terminates whenever the original grammar assigns
    an outcome. -/
theorem C02_inline_run_exists (G : Grammar) (o : Opts) (cfg : Cfg) (inp : List Sym)
    (hinl : o.inline = true) (hsw : o.switch = false) (hast : o.ast = true)
    (hcfg : cfg.ast = true)
    (hinp : ∀ c ∈ inp, c ≠ END) (hG : GrammarOKI G = true) (hL : LinkedOK G = true) (hplain : G.plain)
    {n cr res evs} (hfind : (compileAll o G).find n = some cr)
    (hev : Eval G cfg.rho inp (.name n) 0 res evs) :
    ∃ out s', Exec (compileAll o G) cfg inp cr 0 St.init Frame.empty (out, s') :=
  C01_run_exists (compileAll_world_inline' hinl hsw hast hcfg hinp hG hL hplain) hfind
    (Eval_expandG hev)

/-- **`-inline` is unobservable**: for a rule that has a function in both programs, a run of the
    default parser and a run of the `-inline` parser from a fresh state on the same input agree on
    the verdict, the end position, the published token list (`tree[:tokenIndex]`) and the error token
    (`maxToken`) — whenever the PEG semantics assigns the rule an outcome at all (if it assigns none,
    left recursion, nothing is said about a run). -/
theorem C02_inline_same_as_default (G : Grammar) (o : Opts) (cfg : Cfg) (inp : List Sym)
    (hsw : o.switch = false) (hast : o.ast = true) (hcfg : cfg.ast = true)
    (hinp : ∀ c ∈ inp, c ≠ END) (hG : GrammarOK G = true) (hGI : GrammarOKI G = true)
    (hL : LinkedOK G = true) (hplain : G.plain)
    {n cr1 cr2 res evs out1 s1 out2 s2}
    (hfind1 : (compileAll { o with inline := false } G).find n = some cr1)
    (hfind2 : (compileAll { o with inline := true } G).find n = some cr2)
    (hev : Eval G cfg.rho inp (.name n) 0 res evs)
    (hrun1 : Exec (compileAll { o with inline := false } G) cfg inp cr1 0 St.init Frame.empty (out1, s1))
    (hrun2 : Exec (compileAll { o with inline := true } G) cfg inp cr2 0 St.init Frame.empty (out2, s2)) :
    out1 = out2 ∧ out1 ≠ .panic ∧ s1.pos = s2.pos ∧ s1.ti = s2.ti ∧
    s1.tree.take s1.ti = s2.tree.take s2.ti ∧ s1.maxTok = s2.maxTok := by
  have hW1 := compileAll_world' (o := { o with inline := false }) (cfg := cfg) (inp := inp)
    hsw rfl hast hcfg hinp hG hL hplain
  have hW2 := compileAll_world_inline' (o := { o with inline := true }) (cfg := cfg) (inp := inp)
    rfl hsw hast hcfg hinp hGI hL hplain
  have a := R_afterReset hW1 afterReset_init hfind1 hev hrun1
  have b := R_afterReset hW2 afterReset_init hfind2 (Eval_expandG hev) hrun2
  obtain ⟨ho, hp, hti, htoks⟩ := a.agree b
  exact ⟨ho, a.ne_panic, hp, hti, htoks, a.maxTok.trans b.maxTok.symm⟩

/-! ### Non-vacuity

    `S <- A B B*`, `A <- 'a'`, `B <- 'b'`: `A` has one reference and is compiled in
    place (no function), `B` has two and keeps its function, `S` is the rule emitted with label 0. -/
def exGI : Grammar := { rules := [
  { name := "S", id := 0, body := .ipush (.seq [.name "A", .name "B", .star (.name "B")]) "S" },
  { name := "A", id := 1, body := .ipush (.chr 97) "A" },
  { name := "B", id := 2, body := .ipush (.chr 98) "B" }] }

/-- The hypotheses of `C02_inline_generated_parser` are satisfiable, and something is inlined. -/
example : GrammarOKI exGI = true ∧ GrammarOK exGI = true ∧ LinkedOK exGI = true ∧ exGI.plain ∧
    ((compileAll { inline := true } exGI).find "S").isSome = true ∧
    ((compileAll { inline := true } exGI).find "B").isSome = true ∧
    ((compileAll { inline := true } exGI).find "A").isSome = false ∧
    ((compileAll { inline := false } exGI).find "A").isSome = true :=
  ⟨by decide, by decide, by decide, Grammar.plain_of_all (by decide), by decide, by decide,
    by decide, by decide⟩

/-- The body `-inline` compiles for `S` carries the body of `A` in place. -/
example : (expandG { inline := true } exGI).body "S" =
    some (.ipush (.seq [.inl "A" (.ipush (.chr 97) "A"), .name "B", .star (.name "B")]) "S") := by
  rfl

/-- `GrammarOKI` is not trivially true: a reference that stays a call to a stub (`nil`) rule, which
    never gets a function, is rejected. -/
example : GrammarOKI { rules := [
    { name := "S", id := 0, body := .ipush (.seq [.name "B", .name "B"]) "S" },
    { name := "B", id := 1, body := .nil }] } = false := by decide +kernel

example : ∃ f evs, Eval exGI (fun _ _ => true) [97, 98, 98] (.name "S") 0 (.ok 3 f) evs :=
  ⟨_, _, evalF_sound 20 _ _ _ _ (by rfl)⟩

end PegVerif

#print axioms PegVerif.C02_semantics_deterministic
#print axioms PegVerif.C02_inline_preserves_semantics
#print axioms PegVerif.C02_expandInline_preserves_semantics
#print axioms PegVerif.C02_inline_generated_parser
#print axioms PegVerif.C02_inline_run_exists
#print axioms PegVerif.C02_inline_same_as_default
