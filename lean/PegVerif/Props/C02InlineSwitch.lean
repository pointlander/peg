import PegVerif.Proofs.WorldInline
import PegVerif.Model.SafeDef
import PegVerif.Proofs.SwitchLemmas
import PegVerif.Proofs.Implements
import PegVerif.Model.Optimise
/-
  C02 — the option combination `-inline -switch` (AST mode).

  In Go: link → `-switch` rewrite of the grammar (`optimise`, giving `G'`) → emission with `-inline`
  (a reference to a rule with exactly one reference compiles the rule body in place, handing the
  `parentDetect` flags to it).  In the model: `compileAll o G'` with `o.inline = true`.

  Chain: a rule of `expandG o G'` has the outcome it has in `G` (`Bridge.switch` from `swOK`, then
  `Bridge.expand`), and `World` for `compileAll o G'` w.r.t. `expandG o G'`
  (`compileAll_world_inlineS'`, from `GrammarOKIS`, `LinkedOK`, `plainS`); then `implements_ast`.
-/
namespace PegVerif

/-- What `inlineSwitchSafe` gives: `World` for the program emitted with `-inline` from the
    rewritten grammar, against its expansion, which has the outcomes of the source grammar. -/
theorem inlineSwitchSafe_world {G : Grammar} (G' : Grammar) (o : Opts) (cfg : Cfg) (inp : List Sym)
    (hwf : WFB G = true) (hsafe : inlineSwitchSafe G G' = true)
    (hinl : o.inline = true) (hast : o.ast = true) (hcfg : cfg.ast = true)
    (hinp : ∀ c ∈ inp, c ≠ END) :
    World (compileAll o G') cfg (realEnv o G') (expandG o G') inp ∧ Bridge G (expandG o G') := by
  simp only [inlineSwitchSafe, Bool.and_eq_true] at hsafe
  obtain ⟨⟨⟨hsw, hG⟩, hL⟩, hp⟩ := hsafe
  exact ⟨compileAll_world_inlineS' hinl hast hcfg hinp hG hL (Grammar.plainS_of_all hp),
    (Bridge.switch hwf hsw).expand o⟩

/-- **C02, `-inline -switch`, end to end.**  For a well-formed grammar `G` and ANY rewritten grammar
    `G'` (in particular `optimise G`) that passes the decidable check `inlineSwitchSafe`, the parser
    emitted with `-inline` from `G'` — run from any post-`Reset` state on any input — terminates,
    never panics, and returns exactly the verdict, the consumed prefix and the token sequence that
    the PEG semantics of the ORIGINAL grammar `G` prescribes. -/
theorem C02_inline_switch_parser (G G' : Grammar) (o : Opts) (cfg : Cfg) (inp : List Sym)
    (hwf : WFB G = true) (hsafe : inlineSwitchSafe G G' = true)
    (hinl : o.inline = true) (hast : o.ast = true) (hcfg : cfg.ast = true)
    (hinp : ∀ c ∈ inp, c ≠ END)
    {n cr} (hfind : (compileAll o G').find n = some cr) :
    ∃ res evs, Eval G cfg.rho inp (.name n) 0 res evs ∧
      (∃ out s', Exec (compileAll o G') cfg inp cr 0 St.init Frame.empty (out, s')) ∧
      ∀ s out s', AfterReset s → Exec (compileAll o G') cfg inp cr 0 s Frame.empty (out, s') →
        out ≠ .panic ∧
        match res with
        | .ok p' forest => out = .ret true ∧ s'.pos = p' ∧ s'.tree.take s'.ti = postorderL forest
        | .fail => out = .ret false ∧ s'.pos = 0 := by
  obtain ⟨hW, hB⟩ := inlineSwitchSafe_world G' o cfg inp hwf hsafe hinl hast hcfg hinp
  obtain ⟨res, evs, _, hev, _, hall⟩ := implements_ast hW hB hfind
  exact ⟨res, evs, hev, (hall _ afterReset_init).1, fun s out s' hs hrun => ((hall s hs).2 out s' hrun).parse⟩

/-- **C02, `-inline -switch` against the default parser**: under `inlineSwitchSafe` (and the default
    parser's own side conditions on `G`), the parser generated WITH `-inline -switch` (from the
    rewritten grammar `G'`) and the parser generated WITHOUT either option (from `G`) give the same
    verdict, consume the same prefix and record the same token sequence, on every input and from
    every post-`Reset` state, and neither panics — for every rule that has a function in both
    programs.  (`o'.switch` is unconstrained: the emission does not read it.) -/
theorem C02_inline_switch_same_as_default (G G' : Grammar) (o o' : Opts) (cfg : Cfg) (inp : List Sym)
    (hwf : WFB G = true) (hsafe : inlineSwitchSafe G G' = true)
    (hinl : o.inline = false) (hsw : o.switch = false) (hast : o.ast = true)
    (hinl' : o'.inline = true) (hast' : o'.ast = true) (hcfg : cfg.ast = true)
    (hinp : ∀ c ∈ inp, c ≠ END)
    (hG : GrammarOK G = true) (hL : LinkedOK G = true) (hplain : G.plain)
    {n cr cr'} (hfind : (compileAll o G).find n = some cr) (hfind' : (compileAll o' G').find n = some cr')
    {s t out out' s' t'} (hs : AfterReset s) (ht : AfterReset t)
    (hrun : Exec (compileAll o G) cfg inp cr 0 s Frame.empty (out, s'))
    (hrun' : Exec (compileAll o' G') cfg inp cr' 0 t Frame.empty (out', t')) :
    out = out' ∧ out ≠ .panic ∧ out' ≠ .panic ∧ s'.pos = t'.pos ∧
      (out = .ret true → s'.tree.take s'.ti = t'.tree.take t'.ti) := by
  obtain ⟨hW', hB⟩ := inlineSwitchSafe_world G' o' cfg inp hwf hsafe hinl' hast' hcfg hinp
  obtain ⟨res, evs, _, hev, _, hall⟩ := implements_ast hW' hB hfind'
  have hW := compileAll_world' (cfg := cfg) (inp := inp) hsw hinl hast hcfg hinp hG hL hplain
  have a := R_afterReset hW hs hfind hev hrun
  have b := (hall t ht).2 out' t' hrun'
  obtain ⟨ho, hp, _, htoks⟩ := a.agree b
  exact ⟨ho, a.ne_panic, b.ne_panic, hp, fun _ => htoks⟩

/-! ## Non-vacuity

  Source grammar   `S <- (A / B 'y' / 'd' / [g-k] 'z') !.    A <- 'a' 'x'    B <- [b-c]`
  after `-switch`  `S <- switch { case 'd': 'd';  case 'a': A;  case 'b','c': B 'y';
                                  default: [g-k] 'z' } !.`   (the form `optimise` produces)

  `A` and `B` are referenced once, so `-inline` compiles their bodies in place, directly behind the
  `case`; `S` is the rule emitted with label 0 and keeps its function.  Inside the inlined body of
  `A` the test of `'a'` is elided (`parentDetect`, one key); inside the inlined body of `B` the test
  of `[b-c]` is kept (two keys: `parentMultipleKey`). -/
namespace InlineSwitchTests

def srcG : Grammar := { rules := [
  { name := "S", id := 0, body := .ipush (.seq [
      .alt [.name "A", .seq [.name "B", .chr 121], .chr 100, .seq [.rng 103 107, .chr 122]],
      .peekNot .dot]) "S" },
  { name := "A", id := 1, body := .ipush (.seq [.chr 97, .chr 120]) "A" },
  { name := "B", id := 2, body := .ipush (.rng 98 99) "B" }] }

def swG : Grammar := { rules := [
  { name := "S", id := 0, body := .ipush (.seq [
      .ualt [[(100, 100)], [(97, 97)], [(98, 99)], [(103, 107)]]
        [.chr 100, .name "A", .seq [.name "B", .chr 121], .seq [.rng 103 107, .chr 122]],
      .peekNot .dot]) "S" },
  { name := "A", id := 1, body := .ipush (.seq [.chr 97, .chr 120]) "A" },
  { name := "B", id := 2, body := .ipush (.rng 98 99) "B" }] }

def isOpts : Opts := { inline := true, switch := true, ast := true }

/-- All hypotheses of `C02_inline_switch_same_as_default` about the two grammars hold. -/
example : WFB srcG = true ∧ inlineSwitchSafe srcG swG = true ∧ GrammarOK srcG = true ∧
    LinkedOK srcG = true ∧ srcG.plain :=
  ⟨by decide +kernel, by decide +kernel, by decide +kernel, by decide +kernel,
    Grammar.plain_of_all (by decide +kernel)⟩

/-- `swG` is literally what the modelled optimiser (`optimise` = `optimizeAlternates`) makes of
    `srcG` (kernel-checked; `swMatchL` with no renaming is syntactic equality of the bodies) … -/
example : (optimise srcG).toOption.map (fun G' =>
    swMatchL (fun _ => none) (G'.rules.map (·.body)) (swG.rules.map (·.body)) &&
    G'.rules.map (fun r => (r.name, r.id)) == swG.rules.map (fun r => (r.name, r.id))) = some true := by
  decide +kernel
-- … and the side condition evaluated directly on the optimiser's output (interpreter).
#guard (optimise srcG).toOption.map (inlineSwitchSafe srcG) == some true

/-- `S` has a function in both programs; `A` and `B` have one in the default program only. -/
example : (((compileAll {} srcG).find "S").isSome, ((compileAll isOpts swG).find "S").isSome,
    ((compileAll {} srcG).find "A").isSome, ((compileAll isOpts swG).find "A").isSome,
    ((compileAll {} srcG).find "B").isSome, ((compileAll isOpts swG).find "B").isSome) =
    (true, true, true, false, true, false) := by decide +kernel

/-- The body compiled for `S`: the rule bodies sit in place behind the `case`s. -/
example : (expandG isOpts swG).body "S" = some (.ipush (.seq [
    .ualt [[(100, 100)], [(97, 97)], [(98, 99)], [(103, 107)]]
      [.chr 100, .inl "A" (.ipush (.seq [.chr 97, .chr 120]) "A"),
       .seq [.inl "B" (.ipush (.rng 98 99) "B"), .chr 121], .seq [.rng 103 107, .chr 122]],
    .peekNot .dot]) "S") := by rfl

/-- The elision really happens INSIDE the inlined body: no test of `'a'` is printed (while the
    default parser has one, in the function of `A`), the range test of the two-key case is kept,
    there is a `switch`, no call is left, and both inlined rules still publish their token. -/
example : ((compileAll isOpts swG).find "S").map (fun c =>
      (c.any (fun i => match i with | .ifNeChr 97 _ => true | _ => false),
       c.any (fun i => match i with | .ifNotRng 98 99 _ => true | _ => false),
       c.any (fun i => match i with | .switchOn .. => true | _ => false),
       c.any (fun i => match i with | .call _ | .callIf _ _ => true | _ => false),
       c.any (fun i => match i with | .add "A" _ => true | _ => false),
       c.any (fun i => match i with | .add "B" _ => true | _ => false))) =
    some (false, true, true, false, true, true) := by decide +kernel
example : ((compileAll {} srcG).find "A").map (fun c =>
    c.any (fun i => match i with | .ifNeChr 97 _ => true | _ => false)) = some true := by decide +kernel

/-- The side condition is not vacuous: if the key of the first case does not imply the character
    the inlined body of `A` starts with, the elision is not justified — rejected (while the same
    grammar passes the `-switch`-only check `GrammarOKS`, where `A` is a call). -/
def swGbad : Grammar := { rules := [
  { name := "S", id := 0, body := .ipush (.seq [
      .ualt [[(98, 98)], [(99, 99)]] [.name "A", .seq [.name "B", .chr 121], .chr 100],
      .peekNot .dot]) "S" },
  { name := "A", id := 1, body := .ipush (.seq [.chr 97, .chr 120]) "A" },
  { name := "B", id := 2, body := .ipush (.rng 98 99) "B" }] }

example : (GrammarOKIS swGbad, GrammarOKS swGbad) = (false, true) := by decide +kernel

/-- TEST harness: the reference interpreter on the SOURCE grammar against the code emitted with
    `-inline -switch` from the rewritten grammar, run by the machine model. -/
def agree (G G' : Grammar) (inp : List Sym) : Bool :=
  let cfg : Cfg := { ast := true, memo := true, rho := fun _ _ => true }
  match (compileAll isOpts G').find "S" with
  | none => false
  | some cr =>
    match evalF G cfg.rho inp 50 (.name "S") 0,
        execF (compileAll isOpts G') cfg inp 500 cr 0 St.init Frame.empty with
    | some (.ok p' f, _), some (.ret true, s') => s'.pos == p' && s'.tree.take s'.ti == postorderL f
    | some (.fail, _), some (.ret false, s') => s'.pos == 0
    | _, _ => false

/-- TESTS (not theorems about all inputs): `execF` and `evalF` agree on accepted and rejected inputs. -/
example : agree srcG swG [97, 120] = true := by decide +kernel    -- "ax"  accepted, case 0 (inlined A)
example : agree srcG swG [98, 121] = true := by decide +kernel    -- "by"  accepted, case 1 (inlined B)
example : agree srcG swG [99, 121] = true := by decide +kernel    -- "cy"  accepted, case 1
example : agree srcG swG [100] = true := by decide +kernel        -- "d"   accepted, case 'd'
example : agree srcG swG [104, 122] = true := by decide +kernel   -- "hz"  accepted, default
example : agree srcG swG [97, 121] = true := by decide +kernel    -- "ay"  rejected inside inlined A
example : agree srcG swG [97] = true := by decide +kernel         -- "a"   rejected inside inlined A
example : agree srcG swG [98, 120] = true := by decide +kernel    -- "bx"  rejected after inlined B
example : agree srcG swG [101] = true := by decide +kernel        -- "e"   rejected in the default
example : agree srcG swG [] = true := by decide +kernel           -- ""    rejected (end symbol → default)
example : agree srcG swG [97, 120, 97] = true := by decide +kernel -- "axa" rejected by `!.`

/-- TEST: on "ax" the `-inline -switch` parser publishes the tokens `A[0,2) S[0,2)` — the inlined
    rule still has its node. -/
example : ((compileAll isOpts swG).find "S").bind (fun cr =>
    (execF (compileAll isOpts swG) { ast := true, memo := true, rho := fun _ _ => true }
      [97, 120] 500 cr 0 St.init Frame.empty).map (fun r => (r.1, r.2.tree.take r.2.ti))) =
    some (.ret true, [⟨"A", 0, 2⟩, ⟨"S", 0, 2⟩]) := by decide +kernel

/-- … as the semantics of the source grammar prescribes. -/
example : ∃ f evs, Eval srcG (fun _ _ => true) [97, 120] (.name "S") 0 (.ok 2 f) evs ∧
    postorderL f = [⟨"A", 0, 2⟩, ⟨"S", 0, 2⟩] :=
  ⟨_, _, evalF_sound 20 _ _ _ _ (by rfl), by rfl⟩

/-- (semantics accepts?, emitted `-inline -switch` code accepts?) -/
def verdicts (G G' : Grammar) (inp : List Sym) : Option (Bool × Bool) :=
  let cfg : Cfg := { ast := true, memo := true, rho := fun _ _ => true }
  match (compileAll isOpts G').find "S" with
  | none => none
  | some cr =>
    match evalF G cfg.rho inp 50 (.name "S") 0,
        execF (compileAll isOpts G') cfg inp 500 cr 0 St.init Frame.empty with
    | some (r, _), some (o, _) =>
      some (match r with | .ok _ _ => true | .fail => false,
            match o with | .ret true => true | _ => false)
    | _, _ => none

/-- TEST: the rejected grammar `swGbad` is really wrong under `-inline` — "bx" is accepted by the
    emitted code (the test of `'a'` is elided inside the inlined body of `A`), though the semantics
    of `swGbad` rejects it; without the elision being unjustified (`swG`) both reject. -/
example : (verdicts swGbad swGbad [98, 120], verdicts srcG swG [98, 120]) =
    (some (false, true), some (false, false)) := by decide +kernel

end InlineSwitchTests
end PegVerif

#print axioms PegVerif.C02_inline_switch_parser
#print axioms PegVerif.C02_inline_switch_same_as_default
