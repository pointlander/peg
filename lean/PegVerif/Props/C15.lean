import PegVerif.Proofs.DiagUniq
/-
  Property C15 — grammar diagnostics of the generator (`tree/peg.go`: first pass of `Compile`,
  `link`, `countRules`, `checkRecursion`, `warn`, the emission loop, `-strict`).

  Model: `PegVerif.diagnostics` (Model/Diag.lean) on the rules the front end built; it is tied to
  the real generator by T-diag (`bin/tdiag.py`, ordered warning lines, strict / non-strict error).
  Spec (Model/Diag.lean, Part 2): `Reachable`, `UndefinedIn`, `MustConsume`, `FirstRef`, `LeftRec`
  (and the coarser `LeftRecW`).  `G := (linkGrammar rules).G` is the tree after `link`: the user's
  rules (bodies wrapped), then a `nil` stub per undefined name / `PegText`, and one rule per action;
  `(linkGrammar rules).referenced` are the names `link` recorded in `t.referenced`.  The statements use
  definitions of the model files only (Model/Diag, Model/Link, Model/Syntax); the vocabulary of Proofs/Diag*
  (`Run`, `Marks`, `EvSpec`, `wantsE`, …) occurs in proofs alone.

  Every theorem is for grammars of any size.  Duplicates, `-strict`, "defined but not used" and "used but
  not defined" are characterised exactly; left recursion is complete per rule and exact per grammar, but
  per rule only weakly sound (`leftrec_sound_per_rule_false`).
-/
namespace PegVerif.C15
open PegVerif

/-! ## duplicates -/

/-- The first pass reports a duplicate exactly when two rules share a name. -/
theorem duplicate_iff (rules : List Rule) :
    (diagnostics rules).dupError = none ↔ (rules.map (·.name)).Nodup :=
  dupError_none_iff.trans (firstPass_dup_none rules)

/-- A rule defined twice is diagnosed (the model has no panic outcome; T-diag checks the real
    generator does not panic): an error is returned whether or not `-strict`, nothing else is reported. -/
theorem duplicate_diagnosed (rules : List Rule) (h : ¬ (rules.map (·.name)).Nodup) :
    ∃ n, (diagnostics rules).dupError = some ("rule '" ++ n ++ "' defined more than once") ∧
      (diagnostics rules).warnings = [] ∧
      ∀ strict, (diagnostics rules).error strict = some ("rule '" ++ n ++ "' defined more than once") := by
  cases hd : (firstPass rules).2 with
  | none => exact absurd ((firstPass_dup_none rules).mp hd) h
  | some n =>
    refine ⟨n, ?_, ?_, ?_⟩ <;> simp [diagnostics_of_dup hd, DiagResult.warnings, DiagResult.error]

/-- The same, for two rules at different places with the same name (also the first rule, also a
    third definition). -/
theorem duplicate_diagnosed' (a b c : List Rule) (r1 r2 : Rule) (h : r1.name = r2.name) :
    (diagnostics (a ++ r1 :: b ++ r2 :: c)).dupError ≠ none := by
  intro hnone
  have hnd := (duplicate_iff _).mp hnone
  rw [List.map_append, List.nodup_append] at hnd
  exact hnd.2.2 r1.name (List.mem_map.mpr ⟨r1, by simp, rfl⟩) r2.name
    (List.mem_map.mpr ⟨r2, List.mem_cons_self, rfl⟩) h

example : (diagnostics [⟨"R0", 0, .chr 97⟩, ⟨"R0", 1, .chr 98⟩, ⟨"R0", 2, .dot⟩]).dupError =
    some "rule 'R0' defined more than once" := by decide

/-! ## -strict -/

theorem strict_fails_iff (rules : List Rule) :
    (diagnostics rules).strictFails = true ↔
      (diagnostics rules).warnings ≠ [] ∨ (diagnostics rules).dupError ≠ none := by
  rcases diagnostics_shape rules with ⟨n, h⟩ | ⟨ds, h⟩ <;> simp [h, DiagResult.warnings]

/-- With `-strict`, `Compile` returns an error exactly when `strictFails`; it is `t.werr`. -/
theorem strict_error (rules : List Rule) :
    ((diagnostics rules).error true).isSome = (diagnostics rules).strictFails ∧
    ((diagnostics rules).dupError = none → (diagnostics rules).strictFails = true →
      (diagnostics rules).error true = some (diagnostics rules).werr) := by
  rcases diagnostics_shape rules with ⟨n, h⟩ | ⟨ds, h⟩
  · simp [h, DiagResult.error]
  · cases ds <;> simp [h, DiagResult.error]

/-- Without `-strict`, only a duplicate makes `Compile` fail. -/
theorem lax_error (rules : List Rule) : (diagnostics rules).error false = (diagnostics rules).dupError := by
  rcases diagnostics_shape rules with ⟨n, h⟩ | ⟨ds, h⟩ <;> simp [h, DiagResult.error]

/-- Generation is silent (nothing printed, no error even under `-strict`) iff there is no
    diagnostic. -/
theorem silent_iff (rules : List Rule) :
    ((diagnostics rules).werr = "" ∧ (diagnostics rules).error true = none) ↔
      ((diagnostics rules).warnings = [] ∧ (diagnostics rules).dupError = none) := by
  rcases diagnostics_shape rules with ⟨n, h⟩ | ⟨ds, h⟩
  · simp [h, DiagResult.error]
  · cases ds <;> simp [h, DiagResult.error, DiagResult.werr, DiagResult.warnings, String.intercalate]

/-! ## defined but not used -/

/-- "defined but not used" is reported for exactly the rules of the linked grammar that have a body
    (user rules and action rules) and are not reachable from the first rule. -/
theorem unused_exact {rules : List Rule} {first : Rule} {rest : List Rule}
    (hdup : (diagnostics rules).dupError = none)
    (hfirst : (linkGrammar rules).G.rules = first :: rest) (n : String) :
    ("rule '" ++ n ++ "' defined but not used") ∈ (diagnostics rules).warnings ↔
      (∃ ru, ru ∈ (linkGrammar rules).G.rules ∧ ru.name = n ∧ ru.body ≠ .nil) ∧
      ¬ Reachable (linkGrammar rules).G first.name n := by
  refine ((render_mem_iff hdup (.unusedRule n)).trans (mem_grammarDiags_unused _ _ n)).trans ?_
  constructor
  · rintro ⟨ru, hru, hb, rfl, hnr⟩
    exact ⟨⟨ru, hru, rfl, hb⟩, mt (reached_iff_of_mem hfirst hru).mpr hnr⟩
  · rintro ⟨⟨ru, hru, rfl, hb⟩, hnr⟩
    exact ⟨ru, hru, hb, rfl, mt (reached_iff_of_mem hfirst hru).mp hnr⟩

/-- For the user's own rules: reported iff unreachable from the first rule. -/
theorem unused_exact_front {rules : List Rule} {r0 : Rule} {rs : List Rule} (hrules : rules = r0 :: rs)
    (hdup : (diagnostics rules).dupError = none) {r : Rule} (hr : r ∈ rules) :
    ("rule '" ++ r.name ++ "' defined but not used") ∈ (diagnostics rules).warnings ↔
      ¬ Reachable (linkGrammar rules).G r0.name r.name := by
  have hd := (duplicate_iff rules).mp hdup
  obtain ⟨first, rest, hG, hname⟩ := linkGrammar_first hd hrules
  rw [unused_exact hdup hG, hname]
  obtain ⟨ru, hru, hn, hb⟩ := front_rule_linked hd hr
  exact ⟨fun h => h.2, fun h => ⟨⟨ru, hru, hn, hb⟩, h⟩⟩

/-! ## used but not defined -/

/-- `referenced_iff` under the hypotheses of this file.  `t.referenced` after `link`: the names that some
    rule mentions (at any place, reachable or not). -/
theorem referenced_spec {rules : List Rule} (hdup : (diagnostics rules).dupError = none)
    (hfront : FrontRules rules) (n : String) :
    n ∈ (linkGrammar rules).referenced ↔ ∃ r, r ∈ rules ∧ Mentions r.body n :=
  referenced_iff ((duplicate_iff rules).mp hdup) hfront n

/-- "used but not defined" is reported for exactly the names that are mentioned by some rule —
    reachable or NOT — and are not the name of a rule.  This includes the name `PegText`: the stub
    `link` creates for a capture `<…>` is reported iff some expression refers to it.  Only the names
    `Action<k>`, which `link` itself creates, are left out. -/
theorem undefined_exact {rules : List Rule} (hdup : (diagnostics rules).dupError = none)
    (hfront : FrontRules rules) {n : String} (hn : ¬ isAct n) :
    ("rule '" ++ n ++ "' used but not defined") ∈ (diagnostics rules).warnings ↔ UndefinedIn rules n := by
  have hd := (duplicate_iff rules).mp hdup
  have hs := stub_iff hd hfront hn
  have href := referenced_iff hd hfront n
  refine ((render_mem_iff hdup (.undefinedRule n)).trans (mem_grammarDiags_undefined _ _ n)).trans ?_
  constructor
  · rintro ⟨ru, hru, hb, rfl, hrf⟩
    exact ⟨href.mp hrf, (hs.mp ⟨ru, hru, hb, rfl⟩).1⟩
  · rintro ⟨⟨r, hr, hm⟩, h1⟩
    obtain ⟨ru, hru, hb, rfl⟩ := hs.mpr ⟨h1, r, hr, Or.inl ((mentions_iff_refs _ _).mp hm)⟩
    exact ⟨ru, hru, hb, rfl, href.mpr ⟨r, hr, hm⟩⟩

/-- `undefined_exact` with every quantifier written out: the literal reading of the property (finding
    F-C15-1, `R0 <- PegText`, was about this statement). -/
theorem undefined_literal :
    ∀ (rules : List Rule) (n : String), (diagnostics rules).dupError = none → FrontRules rules → ¬ isAct n →
      (("rule '" ++ n ++ "' used but not defined") ∈ (diagnostics rules).warnings ↔ UndefinedIn rules n) :=
  fun _ _ hdup hfront hn => undefined_exact hdup hfront hn

/-- `PegText` is a name like any other: reported iff mentioned and not defined — whether or not
    the grammar has captures. -/
theorem undefined_pegtext {rules : List Rule} (hdup : (diagnostics rules).dupError = none)
    (hfront : FrontRules rules) :
    "rule 'PegText' used but not defined" ∈ (diagnostics rules).warnings ↔ UndefinedIn rules "PegText" :=
  undefined_exact (n := "PegText") hdup hfront pegText_not_act

/-- `R0 <- PegText` (the replay of F-C15-1) is reported, and fails under `-strict` -/
example : (diagnostics [⟨"R0", 0, .name "PegText"⟩]).warnings = ["rule 'PegText' used but not defined"] ∧
    (diagnostics [⟨"R0", 0, .name "PegText"⟩]).strictFails = true := by decide
/-- … also when a capture created the stub first, or creates it later. -/
example : (diagnostics [⟨"R0", 0, .seq [.push (.chr 97) "", .name "R1"]⟩, ⟨"R1", 1, .name "PegText"⟩]).warnings =
    ["rule 'PegText' used but not defined"] := by decide
example : (diagnostics [⟨"R0", 0, .seq [.name "PegText", .name "U"]⟩, ⟨"R1", 1, .push (.chr 97) ""⟩]).warnings =
    ["rule 'R1' defined but not used", "rule 'PegText' used but not defined", "rule 'U' used but not defined"] := by
  decide
/-- A grammar that only captures is silent; so is one that defines `PegText` itself. -/
theorem capture_only_silent :
    (diagnostics [⟨"R0", 0, .push (.chr 97) ""⟩]).warnings = [] ∧
    (diagnostics [⟨"R0", 0, .push (.chr 97) ""⟩]).strictFails = false := by decide
example : (diagnostics [⟨"R0", 0, .seq [.push (.chr 97) "", .name "PegText"]⟩, ⟨"PegText", 1, .chr 98⟩]).warnings = [] := by
  decide

/-! ## possible infinite left recursion -/

/-- COMPLETE (per rule): every left-recursive rule is reported — directly or indirectly recursive,
    behind nullable prefixes (also nullable *rules*), under `? * + & ! <>`, in any alternative,
    reachable from the first rule or not. -/
theorem leftrec_complete {rules : List Rule} (hdup : (diagnostics rules).dupError = none) {n : String}
    (h : LeftRec (linkGrammar rules).G n) :
    ("possible infinite left recursion in rule '" ++ n ++ "'") ∈ (diagnostics rules).warnings :=
  (leftRec_warned_iff hdup n).mpr (recWarnings_complete h)

/-- SOUND, weak form (per rule): every reported rule lies on a cycle of references in
    syntactically-first position (`LeftRecW` ⊇ `LeftRec`). -/
theorem leftrec_sound_weak {rules : List Rule} (hdup : (diagnostics rules).dupError = none)
    (hu : (linkGrammar rules).G.Uniq) {n : String}
    (h : ("possible infinite left recursion in rule '" ++ n ++ "'") ∈ (diagnostics rules).warnings) :
    LeftRecW (linkGrammar rules).G n :=
  recWarnings_weak hu ((leftRec_warned_iff hdup n).mp h)

theorem leftRec_sub_leftRecW {G : Grammar} {n : String} (h : LeftRec G n) : LeftRecW G n :=
  Plus.mono (fun _ _ ⟨q, hq, hf⟩ => ⟨q, hq, hf.mono fun _ hs => hs.must⟩) h

/-- SOUND, partial (decidable side condition: `n` is the FIRST rule reported by the run of
    `checkRecursion` started at some rule `ru`): then `n` is left recursive. -/
theorem leftrec_sound_partial {rules : List Rule} (hu : (linkGrammar rules).G.Uniq) {ru : Rule}
    (hru : ru ∈ (linkGrammar rules).G.rules) {n : String}
    (hfirst : (recWarningsOf (linkGrammar rules).G ru).head? = some n) :
    LeftRec (linkGrammar rules).G n :=
  recWarningsOf_first hu hru hfirst

/-- EXACT at the level of the grammar (the property text): the diagnostic is reported iff some
    rule can re-enter itself without having consumed input. -/
theorem leftrec_exists_iff {rules : List Rule} (hdup : (diagnostics rules).dupError = none)
    (hu : (linkGrammar rules).G.Uniq) :
    (∃ n, ("possible infinite left recursion in rule '" ++ n ++ "'") ∈ (diagnostics rules).warnings) ↔
      ∃ n, LeftRec (linkGrammar rules).G n := by
  simp only [leftRec_warned_iff hdup]
  exact ⟨fun ⟨n, hn⟩ => Classical.not_forall_not.mp fun h => by simp [(recWarnings_eq_nil_iff hu).mpr h] at hn,
    fun ⟨n, hn⟩ => ⟨n, recWarnings_complete hn⟩⟩

/-- A grammar generates silently (also under `-strict`) iff it has no duplicate, no left-recursive
    rule, no stub that an expression refers to (the only stub nothing refers to is the `PegText` of
    a grammar that captures: `silent_spec_front`), and every rule with a body is reachable. -/
theorem silent_spec {rules : List Rule} {first : Rule} {rest : List Rule}
    (hdup : (diagnostics rules).dupError = none) (hu : (linkGrammar rules).G.Uniq)
    (hfirst : (linkGrammar rules).G.rules = first :: rest) :
    (diagnostics rules).warnings = [] ↔
      (∀ n, ¬ LeftRec (linkGrammar rules).G n) ∧
      (∀ ru, ru ∈ (linkGrammar rules).G.rules → ru.body = .nil → ru.name ∉ (linkGrammar rules).referenced) ∧
      (∀ ru, ru ∈ (linkGrammar rules).G.rules → ru.body ≠ .nil → Reachable (linkGrammar rules).G first.name ru.name) := by
  have hw : (diagnostics rules).warnings = [] ↔
      grammarDiags (linkGrammar rules).G (linkGrammar rules).referenced = [] := by
    simp [diagnostics_of_nodup (dupError_none_iff.mp hdup), DiagResult.warnings]
  rw [hw, grammarDiags_eq_nil, recWarnings_eq_nil_iff hu]
  exact and_congr_right fun _ => and_congr_right fun _ =>
    forall_congr' fun _ => forall_congr' fun hru => forall_congr' fun _ => reached_iff_of_mem hfirst hru

/-- `silent_spec` in terms of the user's grammar: no rule mentions the name of a stub, i.e. nothing is
    undefined; a stub that nothing mentions can only be the `PegText` a capture made. -/
theorem silent_spec_front {rules : List Rule} {first : Rule} {rest : List Rule}
    (hdup : (diagnostics rules).dupError = none) (hu : (linkGrammar rules).G.Uniq)
    (hfront : FrontRules rules) (hfirst : (linkGrammar rules).G.rules = first :: rest) :
    (diagnostics rules).warnings = [] ↔
      (∀ n, ¬ LeftRec (linkGrammar rules).G n) ∧
      (∀ ru, ru ∈ (linkGrammar rules).G.rules → ru.body = .nil → ∀ r, r ∈ rules → ¬ Mentions r.body ru.name) ∧
      (∀ ru, ru ∈ (linkGrammar rules).G.rules → ru.body ≠ .nil → Reachable (linkGrammar rules).G first.name ru.name) := by
  rw [silent_spec hdup hu hfirst]
  have href := referenced_spec hdup hfront
  constructor
  · rintro ⟨h1, h2, h3⟩
    exact ⟨h1, fun ru hru hb r hr hm => h2 ru hru hb ((href _).mpr ⟨r, hr, hm⟩), h3⟩
  · rintro ⟨h1, h2, h3⟩
    refine ⟨h1, fun ru hru hb hmem => ?_, h3⟩
    obtain ⟨r, hr, hm⟩ := (href _).mp hmem
    exact h2 ru hru hb r hr hm

/-- A stub that no rule mentions is the `PegText` of a capture (not an `Action<k>` name). -/
theorem unreferenced_stub_is_pegtext {rules : List Rule} (hdup : (diagnostics rules).dupError = none)
    (hfront : FrontRules rules) {ru : Rule} (hru : ru ∈ (linkGrammar rules).G.rules) (hb : ru.body = .nil)
    (hact : ¬ isAct ru.name) (hno : ∀ r, r ∈ rules → ¬ Mentions r.body ru.name) : ru.name = "PegText" := by
  have hd := (duplicate_iff rules).mp hdup
  obtain ⟨_, r, hr, hw⟩ := (stub_iff hd hfront hact).mp ⟨ru, hru, hb, rfl⟩
  rcases hw with hw | ⟨hw, _⟩
  · exact absurd ((mentions_iff_refs _ _).mpr hw) (hno r hr)
  · exact hw

/-! ## per-rule soundness against `LeftRec` is false for the code as it is

  Witness   R0 <- R1
            R1 <- R1 R0 'a'
  `R1` must consume (it ends in 'a'), so `R0` in the body of `R1` is NOT in first position and `R0`
  cannot re-enter itself: it calls `R1`, which calls `R1`, … for ever.  The run of `checkRecursion`
  started at `R0` cuts the cycle at the inner `R1` (returns "does not consume"), therefore goes on to
  the next element `R0`, finds it marked and reports `R0`.  (Harmless for the user: the grammar IS
  left recursive, `R1` is reported too; only the attribution to `R0` is spurious.) -/

def wRules : List Rule :=
  [⟨"R0", 0, .name "R1"⟩, ⟨"R1", 1, .seq [.name "R1", .name "R0", .chr 97]⟩]

def wG : Grammar :=
  ⟨[⟨"R0", 0, .ipush (.name "R1") "R0"⟩, ⟨"R1", 1, .ipush (.seq [.name "R1", .name "R0", .chr 97]) "R1"⟩]⟩

theorem wG_eq : (linkGrammar wRules).G = wG := by rfl

theorem w_warnings : (diagnostics wRules).warnings =
    ["possible infinite left recursion in rule 'R1'", "possible infinite left recursion in rule 'R0'",
     "possible infinite left recursion in rule 'R1'", "possible infinite left recursion in rule 'R1'"] := by
  decide

theorem w_noDup : (diagnostics wRules).dupError = none := by decide

theorem w_uniq : (linkGrammar wRules).G.Uniq := by decide

theorem w_R0_warned :
    ("possible infinite left recursion in rule '" ++ "R0" ++ "'") ∈ (diagnostics wRules).warnings := by
  rw [w_warnings]
  decide

theorem w_R1_consumes : MustConsume wG (.name "R1") :=
  .name (r := ⟨"R1", 1, .ipush (.seq [.name "R1", .name "R0", .chr 97]) "R1"⟩) (by rfl)
    (.ipush (.seq (e := .chr 97) (by simp) (.chr 97)))

theorem w_step {a b : String} (ha : a = "R0" ∨ a = "R1") (h : LStep wG a b) : b = "R1" := by
  obtain ⟨r, hfind, hfr⟩ := h
  rcases ha with rfl | rfl
  · cases hfind.symm.trans (rfl : wG.find "R0" = some ⟨"R0", 0, .ipush (.name "R1") "R0"⟩)
    exact (IsRef.name _).firstRef.mp ((Wraps.ipush _ _).firstRef.mp hfr)
  · cases hfind.symm.trans
      (rfl : wG.find "R1" = some ⟨"R1", 1, .ipush (.seq [.name "R1", .name "R0", .chr 97]) "R1"⟩)
    obtain ⟨pre, e, post, hes, hpre, hfe⟩ := firstRef_seq_inv ((Wraps.ipush _ _).firstRef.mp hfr)
    -- the reference is the first element, or the first element, which consumes, is in `pre`
    cases pre with
    | nil => cases hes; exact (IsRef.name _).firstRef.mp hfe
    | cons p pre' => cases (List.cons.inj hes).1; exact absurd w_R1_consumes (hpre _ List.mem_cons_self)

theorem w_R0_not_leftrec : ¬ LeftRec wG "R0" := by
  have : ∀ a c, Plus (LStep wG) a c → (a = "R0" ∨ a = "R1") → c = "R1" := by
    intro a c h
    induction h with
    | single h => exact fun ha => w_step ha h
    | step h _ ih => exact fun ha => ih (Or.inr (w_step ha h))
  exact fun h => absurd (this _ _ h (.inl rfl)) (by decide)

/-- `w_warnings` again, to be read beside the next two: the model reports `R0` for the witness (T-diag
    replays it on the real generator) -/
example : (diagnostics wRules).warnings =
    ["possible infinite left recursion in rule 'R1'", "possible infinite left recursion in rule 'R0'",
     "possible infinite left recursion in rule 'R1'", "possible infinite left recursion in rule 'R1'"] := w_warnings
example : ¬ LeftRec (linkGrammar wRules).G "R0" := wG_eq ▸ w_R0_not_leftrec
example : LeftRecW (linkGrammar wRules).G "R0" :=
  leftrec_sound_weak w_noDup w_uniq w_R0_warned

theorem leftrec_sound_per_rule_false :
    ¬ ∀ (rules : List Rule) (n : String), (diagnostics rules).dupError = none →
      (linkGrammar rules).G.Uniq → FrontRules rules →
      ("possible infinite left recursion in rule '" ++ n ++ "'") ∈ (diagnostics rules).warnings →
      LeftRec (linkGrammar rules).G n := by
  intro h
  have := h wRules "R0" w_noDup w_uniq
    (by intro r hr; simp [wRules] at hr; rcases hr with rfl | rfl <;> rfl) w_R0_warned
  rw [wG_eq] at this
  exact w_R0_not_leftrec this

/-! ## the side condition `Uniq` -/

/-- The linked grammar has pairwise different rule names as soon as the user's grammar has no
    duplicate and neither defines nor mentions a name of the form `Action<k>`. -/
theorem linked_uniq {rules : List Rule} (hdup : (diagnostics rules).dupError = none)
    (hnames : ∀ r, r ∈ rules → ¬ isAct r.name)
    (hrefs : ∀ r, r ∈ rules → ∀ n, Mentions r.body n → ¬ isAct n) : (linkGrammar rules).G.Uniq :=
  linkGrammar_uniq ((duplicate_iff rules).mp hdup) hnames hrefs

/-! ## non-vacuity -/

/-- `R0 <- R0 'a' / 'b'` : the hypothesis of `leftrec_complete` is satisfiable -/
def lrRules : List Rule := [⟨"R0", 0, .alt [.seq [.name "R0", .chr 97], .chr 98]⟩]
example : LeftRec (linkGrammar lrRules).G "R0" :=
  .single ⟨⟨"R0", 0, .ipush (.alt [.seq [.name "R0", .chr 97], .chr 98]) "R0"⟩, by rfl,
    .ipush (.alt (e := .seq [.name "R0", .chr 97]) (by simp) (.seq (pre := []) (by simp) (.name _)))⟩
example : (diagnostics lrRules).warnings = ["possible infinite left recursion in rule 'R0'"] := by decide
example : (diagnostics lrRules).strictFails = true := by decide

/-- Guarded recursion `R0 <- 'a' R0 / 'b'` generates silently. -/
def okRules : List Rule := [⟨"R0", 0, .alt [.seq [.chr 97, .name "R0"], .chr 98]⟩]
example : (diagnostics okRules).warnings = [] ∧ (diagnostics okRules).strictFails = false ∧
    (diagnostics okRules).dupError = none ∧ (linkGrammar okRules).G.Uniq := by decide

/-- Recursion under `&` and `!`, in a later alternative, behind a nullable RULE. -/
example : (diagnostics [⟨"R0", 0, .alt [.chr 97, .seq [.name "E", .peekNot (.name "R0")]]⟩,
                        ⟨"E", 1, .query (.chr 98)⟩]).warnings =
    ["possible infinite left recursion in rule 'R0'"] := by decide

/-- Unreachable rule with an action and an undefined name; `PegText` is appended silently (a
    capture, no reference). -/
def mixRules : List Rule :=
  [⟨"R0", 0, .push (.chr 97) ""⟩, ⟨"R1", 1, .seq [.act "x", .name "U"]⟩]
example : (diagnostics mixRules).warnings =
    ["rule 'R1' defined but not used", "rule 'Action0' defined but not used", "rule 'U' used but not defined"] := by
  decide
example : (linkGrammar mixRules).G.Uniq ∧ FrontRules mixRules := by
  refine ⟨by decide, ?_⟩
  intro r hr; simp [mixRules] at hr; rcases hr with rfl | rfl <;> rfl
example : UndefinedIn mixRules "U" :=
  ⟨⟨_, List.mem_cons_of_mem _ List.mem_cons_self, .seq (e := .name "U") (by simp) (.name _)⟩,
   by intro r hr; simp [mixRules] at hr; rcases hr with rfl | rfl <;> decide⟩

end PegVerif.C15

#print axioms PegVerif.C15.duplicate_iff
#print axioms PegVerif.C15.duplicate_diagnosed
#print axioms PegVerif.C15.duplicate_diagnosed'
#print axioms PegVerif.C15.strict_fails_iff
#print axioms PegVerif.C15.strict_error
#print axioms PegVerif.C15.lax_error
#print axioms PegVerif.C15.silent_iff
#print axioms PegVerif.C15.silent_spec
#print axioms PegVerif.C15.unused_exact
#print axioms PegVerif.C15.unused_exact_front
#print axioms PegVerif.C15.undefined_exact
#print axioms PegVerif.C15.undefined_literal
#print axioms PegVerif.C15.undefined_pegtext
#print axioms PegVerif.C15.referenced_spec
#print axioms PegVerif.C15.capture_only_silent
#print axioms PegVerif.C15.silent_spec_front
#print axioms PegVerif.C15.unreferenced_stub_is_pegtext
#print axioms PegVerif.C15.leftrec_complete
#print axioms PegVerif.C15.leftrec_sound_weak
#print axioms PegVerif.C15.leftrec_sound_partial
#print axioms PegVerif.C15.leftrec_exists_iff
#print axioms PegVerif.C15.leftrec_sound_per_rule_false
#print axioms PegVerif.C15.linked_uniq
