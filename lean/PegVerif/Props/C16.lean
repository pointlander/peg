import PegVerif.Proofs.SetLemmas
/-
  Property C16 — the `set` package behaves as a mathematical set of code points.

  The theorems speak of every set reachable from `NewSet()` by in-domain `AddRange` calls
  (`Reachable`, `InDom`, the invariant `Inv`, and `Within`, `Tame` for `Complement`:
  Proofs/SetLemmas.lean) in the model `MSet`
  (Model/Set.lean), a case-by-case transcription of set/set.go tied to the real code by the
  differential test harness/cmd/setx on the structural dump.

  Purity.  The model is a value model, so "no operation modifies its operands" holds by construction
  and says nothing about pointer aliasing in the Go code: that part of the property is checked only
  by `setx run`, which dumps both operands before and after every operation (`!MUTATED`) and checks
  that no result shares a node with an operand or another result (`ALIASED`).

  No panic.  `has`, `len`, `copy`, `intersects`, `complement` are total in the model because every
  dereference of the Go function is guarded in every representable state (header of Model/Set.lean);
  the others return `Res`, and `no_panic` proves `.ok` on reachable sets.
-/
namespace PegVerif.MSet

instance (b e : Int) : Decidable (InDom b e) := by unfold InDom; infer_instance
instance (s : MSet) (x : Int) : Decidable (mem s x) := by unfold mem; infer_instance
instance (s : MSet) (L : Int) : Decidable (Within s L) := by unfold Within; infer_instance

/-- Running example: inserted out of order, with an adjacent pair and a nested insertion. -/
def exSet : MSet := [(0, 0), (1, 2), (5, 7), (8, 8), (12, 20)]
theorem exSet_reachable : Reachable exSet :=
  ⟨[(5, 7), (1, 2), (8, 8), (0, 0), (6, 6), (12, 20)], by decide, by decide⟩
def exSet2 : MSet := [(0, 2), (5, 8), (12, 15), (17, 20)]
theorem exSet2_reachable : Reachable exSet2 :=
  ⟨[(17, 20), (5, 8), (0, 2), (12, 15)], by decide, by decide⟩
theorem nil_reachable : Reachable [] := ⟨[], by simp, rfl⟩

/-- `Inv` is exactly the set of reachable structures. -/
theorem reachable_iff : Reachable s ↔ Inv s := ⟨Reachable.inv, Inv.reachable⟩
example : Inv exSet := exSet_reachable.inv

/-- One more in-domain `AddRange` succeeds, stays reachable, and adds exactly `[b, e]`. -/
theorem addRange_spec' {s : MSet} {b e : Int} (hs : Reachable s) (hd : InDom b e) :
    ∃ s', addRange s b e = .ok s' ∧ Reachable s' ∧ ∀ x, mem s' x ↔ (b ≤ x ∧ x ≤ e) ∨ mem s x := by
  obtain ⟨s', h1, h2, h3⟩ := addRange_spec hs.inv hd
  exact ⟨s', h1, h2.reachable, h3⟩
example : ∃ s', addRange exSet 3 12 = .ok s' ∧ Reachable s' :=
  let ⟨s', h, r, _⟩ := addRange_spec' exSet_reachable (b := 3) (e := 12) (by decide); ⟨s', h, r⟩

/-- `Add(a)` adds exactly `a`. -/
theorem add_spec {s : MSet} {a : Int} (hs : Reachable s) (hd : InDom a a) :
    ∃ s', add s a = .ok s' ∧ Reachable s' ∧ ∀ x, mem s' x ↔ x = a ∨ mem s x := by
  obtain ⟨s', h1, h2, h3⟩ := addRange_spec' hs hd
  refine ⟨s', h1, h2, fun x => ?_⟩
  rw [h3, show (a ≤ x ∧ x ≤ a) ↔ x = a by omega]

/-- The whole build: the members are exactly the union of the inserted ranges. -/
theorem build_spec {ops : List Iv} (hops : ∀ o ∈ ops, InDom o.1 o.2) :
    ∃ s, build ops = .ok s ∧ Inv s ∧ ∀ x, mem s x ↔ mem ops x := by
  obtain ⟨s, h1, h2, h3⟩ := addAll_spec Inv.nil hops
  exact ⟨s, h1, h2, fun x => by rw [h3]; simp [mem_nil]⟩

/-- Members of a reachable set are code points. -/
theorem mem_bounds {s : MSet} (hs : Reachable s) {x : Int} (h : mem s x) : 0 ≤ x ∧ x < MAXI :=
  hs.inv.mem_bounds h

/-- `Has` is membership, for every integer `x` (not only code points). -/
theorem has_iff {s : MSet} (hs : Reachable s) (x : Int) : has s x = true ↔ mem s x :=
  has_iff_of_inv hs.inv x
example : has exSet 6 = true ∧ has exSet 3 = false ∧ has [] 0 = false := by decide

/-- `Len` is the number of members: members are natural numbers (`mem_bounds`), and for any `N` above
    all of them `Len` equals the number of `n < N` that are members. -/
theorem len_eq_card {s : MSet} (hs : Reachable s) (N : Nat) (hN : ∀ x, mem s x → x < (N : Int)) :
    len s = (((List.range N).filter (fun (n : Nat) => memb s (n : Int))).length : Int) := by
  -- `String` prints `Len` numbers, exactly the members and each once (`elems_spec`); the filtered
  -- range lists the members once each too, so the two lists have the same length
  obtain ⟨l, _, hl, hmem, hlen⟩ := elems_spec hs.inv
  have h1 : l.Nodup := hl.imp Int.ne_of_lt
  have h2 : (((List.range N).filter fun n : Nat => memb s n).map Int.ofNat).Nodup :=
    (List.nodup_range.filter _).map _ fun _ _ h => mt Int.ofNat.inj h
  have h3 := ((List.perm_ext_iff_of_nodup h1 h2).2 fun x => ?_).length_eq
  · rw [← hlen, h3, List.length_map]
  · simp only [hmem, List.mem_map, List.mem_filter, List.mem_range, memb_iff]
    constructor
    · intro hx
      have := mem_bounds hs hx
      have := hN x hx
      exact ⟨x.toNat, ⟨by omega, by rwa [Int.toNat_of_nonneg (by omega)]⟩, by simp; omega⟩
    · rintro ⟨n, ⟨_, hn⟩, rfl⟩
      exact hn
example : len exSet = 16 ∧ len [] = 0 := by decide

/-- `Copy` returns the same structure, for every list, reachable or not: `copy_eq`
    (Proofs/SetLemmas.lean). -/
example : copy exSet = exSet := by decide

/-- `Union` succeeds, its result is again reachable (so every other theorem applies to it), and its
    members are those of either operand. -/
theorem union_spec {a b : MSet} (ha : Reachable a) (hb : Reachable b) :
    ∃ u, union a b = .ok u ∧ Reachable u ∧ Inv u ∧ ∀ x, mem u x ↔ mem a x ∨ mem b x := by
  obtain ⟨u, h1, h2, h3⟩ := union_spec_of_inv ha.inv hb.inv
  exact ⟨u, h1, h2.reachable, h2, h3⟩
example : union exSet exSet2 = .ok [(0, 2), (5, 8), (12, 20)] := by decide

/-- `Intersects` is non-empty intersection. -/
theorem intersects_iff {a b : MSet} (ha : Reachable a) (hb : Reachable b) :
    intersects a b = true ↔ ∃ x, mem a x ∧ mem b x :=
  intersects_iff_of_bounds (fun _ => ha.inv.le_of_mem) (fun _ => hb.inv.le_of_mem)
example : intersects exSet exSet2 = true ∧ intersects exSet [(3, 4), (9, 11)] = false ∧
    intersects exSet [] = false ∧ intersects [] exSet = false := by decide

/-- `Complement(L)` is the complement within `[0, L]`, again reachable and within `[0, L]`, whenever
    `Tame L s`: no interval starts above `L+1` and only the last interval may reach `L`.  This covers
    the one call in `tree/peg.go`, `{EndSymbol}.Complement(EndSymbol-1)`, whose receiver is NOT within
    `[0, L]`. -/
theorem complement_spec_tame {s : MSet} {L : Int} (hs : Reachable s) (hT : Tame L s)
    (hL0 : 0 ≤ L) (hL : L < MAXI) :
    (∀ x, mem (complement s L) x ↔ 0 ≤ x ∧ x ≤ L ∧ ¬ mem s x) ∧
    Reachable (complement s L) ∧ Within (complement s L) L := by
  obtain ⟨h1, h2, h3⟩ := complement_spec_of_tame hs.inv hT hL0 hL
  exact ⟨h1, h2.reachable, h3⟩
example : Tame 0x10FFFF [(0x110000, 0x110000)] ∧
    complement [(0x110000, 0x110000)] 0x10FFFF = [(0, 0x10FFFF)] := ⟨by simp [Tame], by decide⟩

/-- The same for a set within `[0, L]`: every such set is tame. -/
theorem complement_spec {s : MSet} {L : Int} (hs : Reachable s) (hw : Within s L)
    (hL0 : 0 ≤ L) (hL : L < MAXI) :
    (∀ x, mem (complement s L) x ↔ 0 ≤ x ∧ x ≤ L ∧ ¬ mem s x) ∧
    Reachable (complement s L) ∧ Within (complement s L) L :=
  complement_spec_tame hs (tame_of_within hs.inv hw) hL0 hL

/-- The form asked for: for `0 ≤ x ≤ L`, `x` is in the complement iff it is not in `s`. -/
theorem complement_spec_mem {s : MSet} {L x : Int} (hs : Reachable s) (hw : Within s L)
    (hL : L < MAXI) (hx0 : 0 ≤ x) (hxL : x ≤ L) : mem (complement s L) x ↔ ¬ mem s x := by
  rw [(complement_spec hs hw (by omega) hL).1]
  exact ⟨fun h => h.2.2, fun h => ⟨hx0, hxL, h⟩⟩
example : Within exSet 20 ∧ complement exSet 20 = [(3, 4), (9, 11)] ∧
    complement exSet 25 = [(3, 4), (9, 11), (21, 25)] ∧
    complement [] 5 = [(0, 5)] ∧ complement [(0, 5)] 5 = [] := by decide

/-- Without a precondition on the receiver the statement is FALSE for the code as it is: for a
    reachable set that extends beyond `L`, `Complement(L)` can return a structure that is not even
    sorted and contains members of `s` — `{3..5, 6..8}.Complement(5)` is `[(0,2),(0,5)]` — or members
    above `L` — `{7}.Complement(5)` is `[(0,6)]`.  Both replayed on the Go code. -/
theorem complement_unrestricted_false :
    ¬ (∀ (s : MSet) (L x : Int), Reachable s → 0 ≤ L → L < MAXI → 0 ≤ x → x ≤ L →
        (mem (complement s L) x ↔ ¬ mem s x)) := by
  intro h
  have hr : Reachable [(3, 5), (6, 8)] := ⟨[(3, 5), (6, 8)], by decide, by decide⟩
  have := h [(3, 5), (6, 8)] 5 3 hr (by decide) (by decide) (by decide) (by decide)
  revert this
  decide

theorem complement_unrestricted_escapes :
    ¬ (∀ (s : MSet) (L x : Int), Reachable s → 0 ≤ L → L < MAXI → mem (complement s L) x → x ≤ L) := by
  intro h
  have hr : Reachable [(7, 7)] := ⟨[(7, 7)], by decide, by decide⟩
  have := h [(7, 7)] 5 6 hr (by decide) (by decide) (by decide)
  revert this
  decide

/-- `Equal` terminates and is extensional equality (adjacent, never merged intervals included). -/
theorem equal_iff {a b : MSet} (ha : Reachable a) (hb : Reachable b) :
    equal a b = .ok true ↔ ∀ x, mem a x ↔ mem b x :=
  equal_iff_of_inv ha.inv hb.inv

theorem equal_total (a b : MSet) : equal a b = .ok true ∨ equal a b = .ok false := by
  rw [equal_eq]; cases decide (norm a = norm b) <;> simp
example : equal [(1, 1), (2, 2), (4, 6)] [(1, 2), (4, 4), (5, 6)] = .ok true ∧
    equal exSet exSet2 = .ok false ∧ equal [] [] = .ok true ∧ equal [] exSet = .ok false := by decide

/-- `String` prints `render l` where `l` is the strictly ascending list of exactly the members
    (so `l` is THE ascending element list), of length `Len`. -/
theorem string_spec {s : MSet} (hs : Reachable s) :
    ∃ l, elems s = .ok l ∧ toStr s = .ok (render l) ∧ l.Pairwise (· < ·) ∧ (∀ x, x ∈ l ↔ mem s x) ∧
      (l.length : Int) = len s := by
  obtain ⟨l, h1, h2, h3, h4⟩ := elems_spec hs.inv
  exact ⟨l, h1, by simp [toStr, h1], h2, h3, h4⟩
example : elems exSet = .ok [0, 1, 2, 5, 6, 7, 8, 12, 13, 14, 15, 16, 17, 18, 19, 20] ∧
    elems [] = .ok [] := by decide
example : toStr [(0, 0), (1, 2), (5, 5)] = .ok "[0 1 2 5]" ∧ toStr [] = .ok "[]" := by decide

/-- No operation leaves the `.ok` outcomes on reachable sets (the empty set included: `nil_reachable`).
    The remaining operations (`has len copy intersects complement`) are total in the model. -/
theorem no_panic {a b : MSet} (ha : Reachable a) (hb : Reachable b) {lo hi : Int} (hd : InDom lo hi) :
    (addRange a lo hi).isOk = true ∧ (add a lo).isOk = true ∧ (union a b).isOk = true ∧
    (equal a b).isOk = true ∧ (elems a).isOk = true ∧ (toStr a).isOk = true := by
  obtain ⟨_, h1, _⟩ := addRange_spec' ha hd
  obtain ⟨_, h2, _⟩ := add_spec ha (a := lo) ⟨hd.1, Int.le_refl _, by have := hd.2; omega⟩
  obtain ⟨_, h3, _⟩ := union_spec ha hb
  obtain ⟨_, h5, h6, _⟩ := string_spec ha
  refine ⟨by rw [h1]; rfl, by rw [h2]; rfl, by rw [h3]; rfl, ?_, by rw [h5]; rfl, by rw [h6]; rfl⟩
  rcases equal_total a b with h | h <;> rw [h] <;> rfl
example : (union [] []).isOk = true ∧ (equal [] []).isOk = true ∧ (toStr []).isOk = true ∧
    (addRange [] 0 0).isOk = true ∧ has [] 0 = false ∧ len [] = 0 ∧ copy [] = [] ∧
    intersects [] [] = false ∧ complement [] 0 = [(0, 0)] := by decide

/-! ## The hypotheses are satisfiable: every theorem instantiated at the running examples -/

example := has_iff exSet_reachable 6
example := len_eq_card exSet_reachable 21 (by
  rintro x ⟨p, hp, _, h2⟩
  simp only [exSet, List.mem_cons, List.not_mem_nil, or_false] at hp
  rcases hp with rfl | rfl | rfl | rfl | rfl <;> simp only at h2 <;> omega)
example := union_spec exSet_reachable exSet2_reachable
example := union_spec exSet_reachable nil_reachable
example := intersects_iff exSet_reachable exSet2_reachable
example := complement_spec exSet_reachable (L := 20) (by decide) (by decide) (by decide)
example := complement_spec nil_reachable (L := 0) (by decide) (by decide) (by decide)
example := complement_spec_tame (s := [(0x110000, 0x110000)]) (L := 0x10FFFF)
  ⟨[(0x110000, 0x110000)], by decide, by decide⟩ (by simp [Tame]) (by decide) (by decide)
example := equal_iff exSet_reachable exSet2_reachable
example := string_spec exSet_reachable
example := no_panic exSet_reachable nil_reachable (lo := 0) (hi := 2147483646) (by decide)

/-- The sixth `else if` (`beginNode == endNode.Backward`) has the same condition as the fifth on a
    consistent doubly linked list: the model never reports it. -/
theorem addBranch_ne_6 (s : MSet) (b e : Int) : addBranch s b e ≠ 6 := by
  unfold addBranch
  split
  · decide
  · simp only []
    repeat' split
    all_goals omega

end PegVerif.MSet

open PegVerif.MSet in
#print axioms reachable_iff
#print axioms PegVerif.MSet.addRange_spec'
#print axioms PegVerif.MSet.add_spec
#print axioms PegVerif.MSet.build_spec
#print axioms PegVerif.MSet.has_iff
#print axioms PegVerif.MSet.len_eq_card
#print axioms PegVerif.MSet.copy_eq
#print axioms PegVerif.MSet.union_spec
#print axioms PegVerif.MSet.intersects_iff
#print axioms PegVerif.MSet.complement_spec
#print axioms PegVerif.MSet.complement_spec_mem
#print axioms PegVerif.MSet.complement_spec_tame
#print axioms PegVerif.MSet.complement_unrestricted_false
#print axioms PegVerif.MSet.complement_unrestricted_escapes
#print axioms PegVerif.MSet.equal_iff
#print axioms PegVerif.MSet.equal_total
#print axioms PegVerif.MSet.string_spec
#print axioms PegVerif.MSet.no_panic
#print axioms PegVerif.MSet.addBranch_ne_6
