import PegVerif.Props.C12
import PegVerif.Proofs.RunesLemmas
/-
  C13 — generated parsers never crash or misindex: whenever the PEG semantics assigns an outcome
  to the entry rule (which it does for well-formed grammars), every run returns true or false —
  never the `panic` outcome that models an out-of-range index, a bad slice or a nil function — and
  every published token is a span inside the input's rune sequence.  (`World`: head of
  Props/C01.lean; `AfterReset`, the state of a parser after `Reset()`: Proofs/RunFacts.lean.)
-/
namespace PegVerif

variable {P : Program} {cfg : Cfg} {env : CEnv} {G : Grammar} {inp : List Sym}

/-- **C13** (no panic): a run of the emitted function never ends in a Go run-time panic. -/
theorem C13_no_panic (hW : World P cfg env G inp) {n cr res evs s o s'}
    (hs : AfterReset s) (hfind : P.find n = some cr)
    (hev : Eval G cfg.rho inp (.name n) 0 res evs)
    (hrun : Exec P cfg inp cr 0 s Frame.empty (o, s')) : o ≠ .panic :=
  (R_afterReset hW hs hfind hev hrun).ne_panic

/-- **C13** (offsets): every published token satisfies `b ≤ e ≤ |inp|`, so slicing the rune
    sequence by it is defined (and by C03 it is exactly what the token's sub-derivation consumed);
    the final position is inside the input as well. -/
theorem C13_token_slices (hW : World P cfg env G inp) {n cr p' forest evs s o s'}
    (hs : AfterReset s) (hfind : P.find n = some cr)
    (hev : Eval G cfg.rho inp (.name n) 0 (.ok p' forest) evs)
    (hrun : Exec P cfg inp cr 0 s Frame.empty (o, s')) :
    (∀ t ∈ s'.tree.take s'.ti, t.b ≤ t.e ∧ t.e ≤ inp.length) ∧ s'.pos ≤ inp.length := by
  have h := R_afterReset hW hs hfind hev hrun
  rw [h.toks, h.pos]
  exact ⟨(Eval_tokens_bound hev (Nat.zero_le _)).inRange (Nat.le_refl _),
    (Eval_bound hev (Nat.zero_le _)).2⟩

/-- The position never leaves `[0, |inp|]` in the semantics, which is why `buffer[position]`
    (the buffer is the input plus one end symbol) is always in range. -/
theorem C13_position_in_buffer {ρ e p p' f evs} (h : Eval G ρ inp e p (.ok p' f) evs) (hp : p ≤ inp.length) :
    p' < (bufOf inp).length := by
  have := (Eval_bound h hp).2
  simp [bufOf]; omega

/-- **C13** (every Go string): whatever bytes `Buffer` holds — NUL, ill-formed UTF-8, surrogates,
    the maximum code point — the rune sequence `[]rune(Buffer)` the parser works on (model `runes`,
    tied to the real conversion by T-run, which sends bytes) never contains the end symbol, so the
    `inpOK` hypothesis of `World` holds for EVERY buffer; and it is no longer than the byte string,
    so rune offsets fit wherever byte offsets do. -/
theorem C13_every_buffer_is_admissible (bs : List Nat) :
    (∀ c ∈ runes bs, c ≠ END) ∧ (runes bs).length ≤ bs.length :=
  ⟨runes_ne_END bs, runes_length_le bs⟩

/-- ASCII buffers are their own rune sequence (offsets are byte offsets there). -/
theorem C13_ascii_identity (bs : List Nat) (h : ∀ b ∈ bs, b < 0x80) : runes bs = bs := runes_ascii bs h

-- tests: the decoding table on the adversarial inputs the property names
example : runes [0xF4, 0x8F, 0xBF, 0xBF] = [0x10FFFF] := by decide
example : runes [0xF4, 0x90, 0x80, 0x80] = [0xFFFD, 0xFFFD, 0xFFFD, 0xFFFD] := by decide
example : runes [0xED, 0xA0, 0x80] = [0xFFFD, 0xFFFD, 0xFFFD] := by decide      -- surrogate
example : runes [0xC0, 0x80, 0, 0x61] = [0xFFFD, 0xFFFD, 0, 0x61] := by decide  -- overlong NUL, NUL
example : runes [0xE4, 0xB8, 0x96, 0xE4] = [0x4E16, 0xFFFD] := by decide        -- truncated

end PegVerif

#print axioms PegVerif.C13_every_buffer_is_admissible
#print axioms PegVerif.C13_ascii_identity
#print axioms PegVerif.C13_no_panic
#print axioms PegVerif.C13_token_slices
#print axioms PegVerif.C13_position_in_buffer
