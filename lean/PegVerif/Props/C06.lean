import PegVerif.Props.C12
/-
  C06 — packrat memoisation is invisible except in speed.

  R is proved with the memo table present (invariant `MemoOK`: every entry agrees with the PEG
  semantics of its rule at its position, and every token attempted while it was computed ends at or
  before the current `maxToken.end`).  A memo hit therefore returns exactly what re-running the rule
  would: same verdict, same position, same live tokens, and — by the absorption lemma
  `foldl_updTok_absorb` — the same `maxToken`.
-/
namespace PegVerif

variable {P : Program} {cfg : Cfg} {env : CEnv} {G : Grammar} {inp : List Sym}

/-- **C06**: the same emitted parser run with memoisation and with `DisableMemoize` returns the
    same verdict, the same end position, on success the same token list and on failure the same
    error token — for every input on which the semantics is defined, from a fresh or reset parser. -/
theorem C06_memo_invisible (hW : World P cfg env G inp) {n cr res evs s1 s2 o1 o2 t1 t2}
    (h1 : AfterReset s1) (h2 : AfterReset s2) (hfind : P.find n = some cr)
    (hev : Eval G cfg.rho inp (.name n) 0 res evs)
    (r1 : Exec P { cfg with memo := true } inp cr 0 s1 Frame.empty (o1, t1))
    (r2 : Exec P { cfg with memo := false } inp cr 0 s2 Frame.empty (o2, t2)) :
    o1 = o2 ∧ t1.pos = t2.pos ∧ (o1 = .ret true → t1.tree.take t1.ti = t2.tree.take t2.ti) ∧
    t1.maxTok = t2.maxTok := by
  obtain ⟨ho, hp, _, htoks, hmt⟩ :=
    runs_agree (hW.withMemo true) (hW.withMemo false) h1 h2 hfind hfind hev hev r1 r2
  exact ⟨ho, hp, fun _ => htoks, hmt⟩

/-- **C06** (replay): from ANY state whose memo table satisfies the invariant — whether or not it
    already holds an entry for this rule and position — every run of the rule function restores
    position, `tokenIndex`, live tokens and `maxToken` exactly as the semantics (i.e. a re-run)
    prescribes, and the table still satisfies the invariant afterwards. -/
theorem C06_replay_exact (hW : World P cfg env G inp) {n cr p res evs s o s'}
    (hfind : P.find n = some cr) (hev : Eval G cfg.rho inp (.name n) p res evs)
    (hpos : s.pos = p) (hple : p ≤ inp.length) (hlen : s.ti ≤ s.tree.length)
    (hm : MemoOK P G cfg.rho inp s.memo s.maxTok.e)
    (hrun : Exec P cfg inp cr 0 s Frame.empty (o, s')) : RuleSpec P G cfg.rho inp s p res evs o s' :=
  R_rule_all hW hfind hev hpos hple hlen hm hrun

/-- A memoised success never has an empty token list (`m.Partial[len-1]` cannot panic): by the
    invariant its tokens are the post-order of the forest of a rule application, whose last
    element is the rule's own token. -/
theorem C06_partial_nonempty {ρ mtE} {m : MemoEntry} {n : String}
    (h : EntryOK P G ρ inp mtE m) (hn : (P.find n).isSome = true) (hid : G.idOf n = m.id)
    (hm : m.matched = true) : m.part ≠ [] := by
  obtain ⟨res, evs, _, _, _, hmatch⟩ := h n hn hid
  cases res with
  | ok p' forest =>
    obtain ⟨_, _, last, hl, _⟩ := hmatch
    intro e; rw [e] at hl; simp at hl
  | fail => rw [hmatch] at hm; cases hm

end PegVerif

#print axioms PegVerif.C06_memo_invisible
#print axioms PegVerif.C06_replay_exact
#print axioms PegVerif.C06_partial_nonempty
