import PegVerif.Proofs.AstLemmas
/-
  C04 — `Execute()` runs exactly the actions of the successful derivation, once each, in
  left-to-right derivation order, each seeing the most recently completed capture.

  Model: `Model/Ast.lean` (`executeFrom`, `execute`, transcribed from `tree/peg.go.tmpl:255-270`);
  specification: `Model/AstSpec.lean` (`actionTrace` on the derivation forest, `lastCapture` on
  lists); the list-level trace `traceAfter` and the side condition `CapturesInRange` are defined in
  Proofs/AstLemmas.lean.  The token list of a successful parse is `postorderL f` for its derivation forest `f`
  (`C03_tokens`), so only tokens of the successful derivation are ever seen by `Execute`.
  Side condition everywhere: every capture token can be sliced out of the buffer
  (`CapturesInRange`, i.e. `begin ≤ end ≤ len`) — true for every recorded capture.
-/
namespace PegVerif

/-! ## Forest formulation -/

/-- The `Execute` loop on the tokens of ANY forest, from any state, is the left-to-right walk of
    the forest (children, then the node) carrying the most recently completed capture. -/
theorem C04_execute_from (acts : List String) (inp : List Sym) (f : List TokTree) (s : ExecState)
    (h : CapturesInRange inp (postorderL f)) :
    executeFrom acts inp s (postorderL f) = some (actionTrace acts inp f s) := by
  rw [executeFrom_eq acts inp _ s h, runToks_forest]

theorem C04_execute (acts : List String) (inp : List Sym) (f : List TokTree)
    (h : CapturesInRange inp (postorderL f)) :
    execute acts inp (postorderL f) = some (actionTrace acts inp f ExecState.init).1 := by
  rw [execute_eq h, runToks_forest]

/-- For a parse: one well-nested root that ends inside the input — no side condition left. -/
theorem C04_execute_root (acts : List String) (inp : List Sym) {root : TokTree}
    (h : WellNested root) (hlen : root.tok.e ≤ inp.length) :
    execute acts inp root.postorder = some (actionTraceT acts inp root ExecState.init).1 := by
  have hc : CapturesInRange inp (postorderL [root]) := by
    intro t ht _
    exact h.inRange hlen t (by simpa using ht)
  simpa using C04_execute acts inp [root] hc

/-! ## List formulation (independent of trees): event `k` belongs to the `k`-th action token and
    carries the span and text of the last `PegText` token before it -/

/-- `Execute` does not panic and produces the list-level trace. -/
theorem C04_execute_list (acts : List String) (inp : List Sym) (toks : List Token)
    (h : CapturesInRange inp toks) :
    execute acts inp toks = some (traceAfter acts inp [] toks) := by
  rw [execute_eq h, ← lastCapture_nil inp, runToks_traceAfter]

/-- Exactly the action tokens, once each, in recording order. -/
theorem C04_once_each_in_order (acts : List String) (inp : List Sym) (toks : List Token)
    (h : CapturesInRange inp toks) :
    ∃ evs, execute acts inp toks = some evs ∧
      evs.map (·.action) = (toks.filter (isAction acts)).map (·.rule) ∧
      evs.length = (toks.filter (isAction acts)).length :=
  ⟨_, C04_execute_list acts inp toks h, traceAfter_actions acts inp toks [],
    traceAfter_length acts inp toks []⟩

/-- The event of an action token `t` standing after the tokens `pre`: it is event number
    `#action tokens in pre`, and its `begin`, `end`, `text` are those of the LAST `PegText` token of
    `pre` (`inp[b:e]` as runes), or `0, 0, ""` if `pre` has none. -/
theorem C04_event_kth (acts : List String) (inp : List Sym) (pre post : List Token) (t : Token)
    (h : CapturesInRange inp (pre ++ t :: post)) (ha : isAction acts t = true) :
    ∃ evs, execute acts inp (pre ++ t :: post) = some evs ∧
      evs[(pre.filter (isAction acts)).length]? =
        some (ActEvent.mk' t.rule (lastCapture inp pre)) := by
  refine ⟨_, C04_execute_list acts inp _ h, ?_⟩
  rw [traceAfter_append, List.getElem?_append_right (by rw [traceAfter_length]; exact Nat.le_refl _),
    traceAfter_length]
  simp [traceAfter, ha]

/-- Without an action token nothing runs: `Execute` has arms only for captures and actions, and a
    capture produces no event. -/
theorem C04_only_actions (acts : List String) (inp : List Sym) (toks : List Token)
    (h : CapturesInRange inp toks) (hn : ∀ t ∈ toks, isAction acts t = false) :
    execute acts inp toks = some [] := by
  have hl := traceAfter_length acts inp toks []
  rw [List.filter_eq_nil_iff.2 fun t ht => by simp [hn t ht]] at hl
  rw [C04_execute_list acts inp toks h, List.eq_nil_of_length_eq_zero hl]

/-! ## The words of the property, on the forest -/

/-- Every action node of the derivation forest yields exactly one event, and the events come in
    the left-to-right (post-)order of the forest. -/
theorem C04_forest_once_each_in_order (acts : List String) (inp : List Sym) (f : List TokTree)
    (h : CapturesInRange inp (postorderL f)) :
    ((actionTrace acts inp f ExecState.init).1).map (·.action)
      = ((postorderL f).filter (isAction acts)).map (·.rule) := by
  rw [actionTrace_eq_traceAfter, traceAfter_actions]

/-- Forest walk and list walk agree: the capture an action sees in the derivation walk is the
    last `PegText` token recorded before it. -/
theorem C04_actionTrace_eq_list (acts : List String) (inp : List Sym) (f : List TokTree)
    (h : CapturesInRange inp (postorderL f)) :
    (actionTrace acts inp f ExecState.init).1 = traceAfter acts inp [] (postorderL f) :=
  actionTrace_eq_traceAfter acts inp f

/-! ## Non-vacuity: depth 5, equal-span parent/child (`A`/`B`), a zero-width token between
    siblings (`Opt`), nested captures, two actions run twice each; input `"abc"`. -/

namespace C04Example

def inp : List Sym := [97, 98, 99]
def acts : List String := ["Action0", "Action1"]

def root : TokTree :=
  .node ⟨"S", 0, 3⟩ [
    .node ⟨"Action0", 0, 0⟩ [],                      -- before any capture
    .node ⟨"A", 0, 2⟩ [
      .node ⟨"B", 0, 2⟩ [
        .node ⟨"PegText", 0, 2⟩ [                    -- < 'a' <'b'> {Action1} >
          .node ⟨"C", 0, 1⟩ [],
          .node ⟨"PegText", 1, 2⟩ [],
          .node ⟨"Action1", 2, 2⟩ []],               -- outer capture not yet completed
        .node ⟨"Action0", 2, 2⟩ []]],                -- outer capture completed
    .node ⟨"Opt", 2, 2⟩ [],
    .node ⟨"E", 2, 3⟩ [],
    .node ⟨"Action1", 3, 3⟩ []]

example : WellNested root := by decide
example : CapturesInRange inp root.postorder := by decide
example : execute acts inp root.postorder = some
    [⟨"Action0", 0, 0, []⟩, ⟨"Action1", 1, 2, [98]⟩, ⟨"Action0", 0, 2, [97, 98]⟩,
     ⟨"Action1", 0, 2, [97, 98]⟩] := by decide
example : (actionTrace acts inp [root] ExecState.init).1 =
    [⟨"Action0", 0, 0, []⟩, ⟨"Action1", 1, 2, [98]⟩, ⟨"Action0", 0, 2, [97, 98]⟩,
     ⟨"Action1", 0, 2, [97, 98]⟩] := by decide
-- a capture that cannot be sliced is reported as a panic, not truncated
example : execute acts inp [⟨"PegText", 2, 5⟩, ⟨"Action0", 5, 5⟩] = none := by decide

#eval execute acts inp root.postorder

end C04Example

end PegVerif

#print axioms PegVerif.C04_execute_from
#print axioms PegVerif.C04_execute
#print axioms PegVerif.C04_execute_root
#print axioms PegVerif.C04_execute_list
#print axioms PegVerif.C04_once_each_in_order
#print axioms PegVerif.C04_event_kth
#print axioms PegVerif.C04_only_actions
#print axioms PegVerif.C04_forest_once_each_in_order
#print axioms PegVerif.C04_actionTrace_eq_list
