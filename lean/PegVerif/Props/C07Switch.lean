import PegVerif.Props.C07
import PegVerif.Props.C02Switch
import PegVerif.Model.SafeDef
import PegVerif.Proofs.Implements
import PegVerif.Proofs.WorldNoastS
/-
  C07 (`-noast -switch`) — a parser generated with `-noast -switch` accepts the language of the
  source grammar, like the default parser, and runs the actions inline.

  `G` is the linked source grammar, `G'` any rewritten grammar (in particular `optimise G`, the
  model of `optimizeAlternates`) with `noastSwitchSafe G G' = true`:

      swOK G G'                     the rewrite is validated (C02, Proofs/SwitchLemmas.lean):
                                    every rule has in `G'` the outcome it has in `G`;
      GrammarOKNS (Kall G') G'      `compileAll_worldNS` : `WorldNS` for the emitted program;
      plainS G'                     `CheckAlwaysSucceeds` is sound.

  Verdict and end position are those of `G`; the machine's trace / `text` are the fold `reachTrace`
  over the events of the derivation IN `G'`: a switch does not attempt the cases it skips, so an
  action inside an alternative that `G` tries and abandons, and that the switch of `G'` never
  enters, does not run (see the OBSERVATION among the tests).
-/
namespace PegVerif
open Noast

theorem noast_switch_world (K : NKit) (G G' : Grammar) (o : Opts) (cfg : Cfg) (inp : List Sym)
    (hsafe : noastSwitchSafeK K G G' = true)
    (hinl : o.inline = false) (hast : o.ast = false) (hcfg : cfg.ast = false)
    (hinp : ∀ c ∈ inp, c ≠ END) :
    WorldNS K (compileAll o G') cfg (realEnv o G') G' inp := by
  simp only [noastSwitchSafeK, Bool.and_eq_true] at hsafe
  obtain ⟨⟨_, hG⟩, hp⟩ := hsafe
  exact compileAll_worldNS hinl hast hcfg hinp hG
    (fun _ h => alwaysSucceeds_soundS (Grammar.plainS_of_all hp) h)

theorem noast_switch_bridge {K : NKit} {G G' : Grammar} (hwf : WFB G = true)
    (hsafe : noastSwitchSafeK K G G' = true) : Bridge G G' := by
  simp only [noastSwitchSafeK, Bool.and_eq_true] at hsafe
  exact Bridge.switch hwf hsafe.1.1

/-- **C07, `-noast -switch`, verdict.**  For a well-formed grammar `G` and ANY rewritten grammar `G'`
    (in particular `optimise G`) that passes the decidable check `noastSwitchSafe`, the parser
    emitted with `-noast` from `G'` — entered at any rule `n` that has a function, from any state
    positioned at any `p` inside the input — terminates, never panics, returns true exactly when the
    PEG semantics of the ORIGINAL grammar `G` matches a prefix at `p`, false exactly when it does
    not, and stops at the end of exactly that prefix (at `p` on failure). -/
theorem C07_switch_verdict (G G' : Grammar) (o : Opts) (cfg : Cfg) (inp : List Sym)
    (hwf : WFB G = true) (hsafe : noastSwitchSafe G G' = true)
    (hinl : o.inline = false) (hast : o.ast = false) (hcfg : cfg.ast = false)
    (hinp : ∀ c ∈ inp, c ≠ END)
    {n cr} (hfind : (compileAll o G').find n = some cr) {p : Nat} (hple : p ≤ inp.length) :
    ∃ res evs, Eval G cfg.rho inp (.name n) p res evs ∧
      (∀ s, s.pos = p → ∃ out s', Exec (compileAll o G') cfg inp cr 0 s Frame.empty (out, s')) ∧
      ∀ s out s', s.pos = p → Exec (compileAll o G') cfg inp cr 0 s Frame.empty (out, s') →
        out ≠ .panic ∧ (out = .ret true ↔ ∃ p' f, res = .ok p' f) ∧ (out = .ret false ↔ res = .fail) ∧
        (∀ p' f, res = .ok p' f → s'.pos = p') ∧ (res = .fail → s'.pos = p) := by
  obtain ⟨res, evs, _, hev, _, hall⟩ := implements_noast
    (noast_switch_world (Kall G') G G' o cfg inp hsafe hinl hast hcfg hinp)
    (noast_switch_bridge hwf hsafe) hfind hple
  exact ⟨res, evs, hev, fun s hs => (hall s hs).1,
    fun s out s' hs hrun => ((hall s hs).2 out s' hrun).verdict.spec⟩

/-- **C07, `-noast -switch`, inline actions**: what `C07_inline_actions_filtered` states (for the
    whole trace), of the parser emitted with `-noast` from `G'` and the attempted-token list `evs'`
    of the derivation in `G'`. -/
theorem C07_switch_inline_actions (G G' : Grammar) (o : Opts) (cfg : Cfg) (inp : List Sym)
    (hsafe : noastSwitchSafe G G' = true)
    (hinl : o.inline = false) (hast : o.ast = false) (hcfg : cfg.ast = false)
    (hinp : ∀ c ∈ inp, c ≠ END)
    {n cr p res evs' s out s'} (hfind : (compileAll o G').find n = some cr)
    (hev' : Eval G' cfg.rho inp (.name n) p res evs')
    (hpos : s.pos = p) (hple : p ≤ inp.length)
    (hrun : Exec (compileAll o G') cfg inp cr 0 s Frame.empty (out, s')) :
    s'.trace = s.trace ++ (reachTrace (actionCodeOf G') inp evs' s.text).1 ∧
    s'.text = (reachTrace (actionCodeOf G') inp evs' s.text).2 ∧
    s'.tree = s.tree ∧ s'.memo = s.memo ∧ s'.maxTok = (noCap evs').foldl updTok s.maxTok :=
  (RNS_rule_all (noast_switch_world (Kall G') G G' o cfg inp hsafe hinl hast hcfg hinp) hfind hev'
    hpos hple hrun).eff.actions_Kall

/-- **C07, `-noast -switch`, same language as the default parser.**  The default (AST) parser
    generated from `G` (its own side conditions `GrammarOK`, `LinkedOK`, `plain` on `G`) and the
    `-noast -switch` parser generated from a rewritten grammar `G'` with `noastSwitchSafe G G'`,
    run on the same entry rule, input and start position, give the same verdict and end at the same
    position — both are those of the PEG semantics of `G`; neither panics. -/
theorem C07_switch_same_language_as_default (G G' : Grammar) (o o' : Opts) (cfg cfgN : Cfg)
    (inp : List Sym) (hwf : WFB G = true) (hsafe : noastSwitchSafe G G' = true)
    (hinl : o.inline = false) (hsw : o.switch = false) (hast : o.ast = true) (hcfg : cfg.ast = true)
    (hG : GrammarOK G = true) (hL : LinkedOK G = true) (hplain : G.plain)
    (hinl' : o'.inline = false) (hast' : o'.ast = false) (hcfgN : cfgN.ast = false)
    (hrho : cfg.rho = cfgN.rho) (hinp : ∀ c ∈ inp, c ≠ END)
    {n crA crN} (hfindA : (compileAll o G).find n = some crA)
    (hfindN : (compileAll o' G').find n = some crN)
    {p sA sN oA oN sA' sN'} (hposA : sA.pos = p) (hposN : sN.pos = p) (hple : p ≤ inp.length)
    (hlen : sA.ti ≤ sA.tree.length) (hm : MemoOK (compileAll o G) G cfg.rho inp sA.memo sA.maxTok.e)
    (hrunA : Exec (compileAll o G) cfg inp crA 0 sA Frame.empty (oA, sA'))
    (hrunN : Exec (compileAll o' G') cfgN inp crN 0 sN Frame.empty (oN, sN')) :
    oA = oN ∧ oN ≠ .panic ∧ sA'.pos = sN'.pos := by
  obtain ⟨res, evs, _, hev, _, hall⟩ := implements_noast
    (noast_switch_world (Kall G') G G' o' cfgN inp hsafe hinl' hast' hcfgN hinp)
    (noast_switch_bridge hwf hsafe) hfindN hple
  have hWA := compileAll_world' (cfg := cfg) (inp := inp) hsw hinl hast hcfg hinp hG hL hplain
  have a := (R_rule_all hWA hfindA (hrho ▸ hev) hposA hple hlen hm hrunA).verdict
  have b := ((hall sN hposN).2 oN sN' hrunN).verdict
  exact ⟨(a.agree b).1, b.ne_panic, (a.agree b).2⟩

/-- **C07 for the generator itself, `-noast -switch`** (shape of `C07_generated_parser`): from a
    fresh parser, every run of the function emitted for rule `n` from `G'` gives the verdict and end
    position of the semantics of the SOURCE grammar `G`, never panics, and leaves the trace and
    `text` of `reachTrace` over the events of the derivation in `G'`. -/
theorem C07_switch_generated_parser (G G' : Grammar) (o : Opts) (cfg : Cfg) (inp : List Sym)
    (hwf : WFB G = true) (hsafe : noastSwitchSafe G G' = true)
    (hinl : o.inline = false) (hast : o.ast = false) (hcfg : cfg.ast = false)
    (hinp : ∀ c ∈ inp, c ≠ END)
    {n cr} (hfind : (compileAll o G').find n = some cr) :
    ∃ res evs evs', Eval G cfg.rho inp (.name n) 0 res evs ∧ Eval G' cfg.rho inp (.name n) 0 res evs' ∧
      (∃ out s', Exec (compileAll o G') cfg inp cr 0 St.init Frame.empty (out, s')) ∧
      ∀ out s', Exec (compileAll o G') cfg inp cr 0 St.init Frame.empty (out, s') →
        (out = .ret true ↔ ∃ p' f, res = .ok p' f) ∧ (∀ p' f, res = .ok p' f → s'.pos = p') ∧
        (out = .ret false ↔ res = .fail) ∧ out ≠ .panic ∧
        s'.trace = (reachTrace (actionCodeOf G') inp evs' []).1 ∧
        s'.text = (reachTrace (actionCodeOf G') inp evs' []).2 := by
  obtain ⟨res, evs, evs', hev, hev', hall⟩ := implements_noast
    (noast_switch_world (Kall G') G G' o cfg inp hsafe hinl hast hcfg hinp)
    (noast_switch_bridge hwf hsafe) hfind (Nat.zero_le _)
  obtain ⟨hex, hall⟩ := hall St.init rfl
  exact ⟨res, evs, evs', hev, hev', hex, fun out s' hrun => (hall out s' hrun).fresh⟩

/-! ### Non-vacuity and TESTS

  Source grammar (after `link`):

      S       <- ('a' <'x'> Action0 'b' / [b-c] 'y' / 'd') !.
      Action0 <- { A0 }

  and its `-switch` rewrite, written by hand:

      switch { case 'a': 'a' <'x'> Action0 'b'; case 'b','c': [b-c] 'y'; default: 'd' } !.

  In the emitted `-noast` code the test of `'a'` is elided (one key), the test of `[b-c]` is kept
  (two keys).  On "axc" the first case completes the capture and reaches the action, then fails at
  'b': the action still ran, with the text "x". -/
namespace C07SwitchExample

def G : Grammar := ⟨[
  ⟨"S", 0, .ipush (.seq [
      .alt [.seq [.chr 97, .push (.chr 120) "PegText", .name "Action0", .chr 98],
            .seq [.rng 98 99, .chr 121], .chr 100],
      .peekNot .dot]) "S"⟩,
  ⟨"Action0", 1, .ipush (.act "A0") "Action0"⟩]⟩

def G' : Grammar := ⟨[
  ⟨"S", 0, .ipush (.seq [
      .ualt [[(97, 97)], [(98, 99)]]
        [.seq [.chr 97, .push (.chr 120) "PegText", .name "Action0", .chr 98],
         .seq [.rng 98 99, .chr 121], .chr 100],
      .peekNot .dot]) "S"⟩,
  ⟨"Action0", 1, .ipush (.act "A0") "Action0"⟩]⟩

def ρ : String → Nat → Bool := fun _ _ => true
def noastOpts : Opts := { ast := false, switch := true }
def cfgN : Cfg := ⟨false, true, ρ⟩

/-- The hypotheses of `C07_switch_verdict` / `C07_switch_generated_parser` are satisfiable (and `S`
    gets a function). -/
example : WFB G = true ∧ noastSwitchSafe G G' = true ∧
    ((compileAll noastOpts G').find "S").isSome = true := by decide +kernel

/-- … so are those of `C07_switch_same_language_as_default` about the source grammar. -/
example : GrammarOK G = true ∧ LinkedOK G = true ∧ G.plain ∧
    ((compileAll {} G).find "S").isSome = true :=
  ⟨by decide +kernel, by decide +kernel, Grammar.plain_of_all (by decide +kernel), by decide +kernel⟩

/-- The `-switch`-free `-noast` check rejects `G'` (it has a `-switch` node): this is not
    `C07_generated_parser` again. -/
example : GrammarOK G' = false := by decide +kernel

/-- The elision really happens in `-noast` code: `ifNeChr 97` is gone, the range test of the two-key
    case is printed, the default keeps its test, there is a `switchOn`, a `cap` and the inlined
    action statement — and neither `add`-with-buffer nor memo instructions matter (`-noast`). -/
example : ((compileAll noastOpts G').find "S").map (fun c =>
      (c.contains (.ifNeChr 97 0), c.contains (.ifNotRng 98 99 0), c.contains (.ifNeChr 100 0),
        c.any (fun i => match i with | .switchOn .. => true | _ => false),
        c.any (fun i => match i with | .cap _ => true | _ => false),
        c.any (fun i => match i with | .memoCheck _ => true | _ => false))) =
    some (false, true, true, true, true, false) := by decide +kernel
example : ((compileAll noastOpts G').find "Action0") = some [.bb, .stmt "A0", .be, .retT] := by decide +kernel

/-- The spec on "axc": both grammars fail; the derivation in `G'` has the capture and the action of
    the abandoned case among its events; the action ran with the text "x". -/
def evs' : List Token := [⟨"PegText", 1, 2⟩, ⟨"Action0", 2, 2⟩]

example : (evalF G ρ [97, 120, 99] 30 (.name "S") 0).map
    (fun x => (match x.1 with | .ok p _ => some p | .fail => none, x.2)) = some (none, evs') := by decide +kernel
example : (evalF G' ρ [97, 120, 99] 30 (.name "S") 0).map
    (fun x => (match x.1 with | .ok p _ => some p | .fail => none, x.2)) = some (none, evs') := by decide +kernel
example : Eval G' ρ [97, 120, 99] (.name "S") 0 .fail evs' := evalF_sound 30 _ _ _ _ (by rfl)
example : reachTrace (actionCodeOf G') [97, 120, 99] evs' [] = ([("A0", [120])], [120]) := by decide +kernel

/-- The emitted `-noast -switch` program on the executable machine: returns false at position 0 with
    the trace and `text` of the spec and an untouched token buffer. -/
example : (((compileAll noastOpts G').find "S").bind
      (fun c => execF (compileAll noastOpts G') cfgN [97, 120, 99] 200 c 0 St.init Frame.empty)).map
      (fun r => (r.1, r.2.pos, r.2.trace, r.2.text, r.2.tree)) =
    some (.ret false, 0, [("A0", [120])], [120], []) := by rfl

/-- TEST harness: the reference interpreter of `G'` against the `-noast` code emitted for `G'`, run
    by the machine model from a fresh parser: verdict, end position, trace, `text`, `maxToken`
    (over the non-capture events), token buffer untouched. -/
def nsAgree (G' : Grammar) (inp : List Sym) : Bool :=
  let P := compileAll noastOpts G'
  match P.find "S" with
  | none => false
  | some cr =>
    match evalF G' ρ inp 60 (.name "S") 0, execF P cfgN inp 600 cr 0 St.init Frame.empty with
    | some (res, evs), some (out, s') =>
      (match res, out with
        | .ok p' _, .ret true => s'.pos == p'
        | .fail, .ret false => s'.pos == 0
        | _, _ => false) &&
      s'.trace == (reachTrace (actionCodeOf G') inp evs []).1 &&
      s'.text == (reachTrace (actionCodeOf G') inp evs []).2 &&
      s'.maxTok == (noCap evs).foldl updTok zeroTok && s'.tree == []
    | _, _ => false

/-- … and the source grammar's verdict against the same run (what `C07_switch_verdict` states). -/
def nsVerdict (G G' : Grammar) (inp : List Sym) : Bool :=
  let P := compileAll noastOpts G'
  match P.find "S" with
  | none => false
  | some cr =>
    match evalF G ρ inp 60 (.name "S") 0, execF P cfgN inp 600 cr 0 St.init Frame.empty with
    | some (.ok p' _, _), some (.ret true, s') => s'.pos == p'
    | some (.fail, _), some (.ret false, s') => s'.pos == 0
    | _, _ => false

/-- TESTS (not theorems about all inputs): code and semantics agree on accepted and rejected inputs. -/
example : nsAgree G' [97, 120, 98] = true := by decide +kernel      -- "axb" accepted, case 0, action ran
example : nsAgree G' [97, 120, 99] = true := by decide +kernel      -- "axc" rejected after the action ran
example : nsAgree G' [97, 121] = true := by decide +kernel          -- "ay"  rejected inside the capture
example : nsAgree G' [98, 121] = true := by decide +kernel          -- "by"  accepted, case 1
example : nsAgree G' [99, 121] = true := by decide +kernel          -- "cy"  accepted, case 1
example : nsAgree G' [100] = true := by decide +kernel              -- "d"   accepted, default
example : nsAgree G' [101] = true := by decide +kernel              -- "e"   rejected in the default
example : nsAgree G' [] = true := by decide +kernel                 -- ""    rejected (end symbol → default)
example : nsAgree G' [100, 100] = true := by decide +kernel         -- "dd"  rejected by `!.`
example : [[97, 120, 98], [97, 120, 99], [97, 121], [98, 121], [99, 121], [100], [101], [], [100, 100]].all
    (nsVerdict G G') = true := by decide +kernel

/-- The output of the MODELLED `-switch` rewrite (`optimise`) on the source grammar passes the
    end-to-end side condition, IS rewritten, and its emitted code agrees with the semantics. -/
example : (optimise G).toOption.map (noastSwitchSafe G) = some true := by decide +kernel
example : (optimise G).toOption.map (fun g => g.rules.any (fun r => SwitchTests.hasSwitch r.body)) =
    some true := by decide +kernel
example : (optimise G).toOption.map (fun g =>
    [[97, 120, 98], [97, 120, 99], [97, 121], [98, 121], [99, 121], [100], [101], [], [100, 100]].all
      (fun i => nsAgree g i && nsVerdict G g i)) = some true := by decide +kernel

/-- The side condition is not vacuous: keys that do not imply an elided character test are rejected,
    and so is a rewritten grammar whose capture is not named "PegText" (`okN`). -/
example : noastSwitchSafe G ⟨[
  ⟨"S", 0, .ipush (.seq [
      .ualt [[(97, 98)], [(98, 99)]]
        [.seq [.chr 97, .push (.chr 120) "PegText", .name "Action0", .chr 98],
         .seq [.rng 98 99, .chr 121], .chr 100],
      .peekNot .dot]) "S"⟩,
  ⟨"Action0", 1, .ipush (.act "A0") "Action0"⟩]⟩ = false := by decide +kernel
example : GrammarOKNS (Kall G') ⟨[
  ⟨"S", 0, .ipush (.ualt [[(97, 97)]] [.seq [.chr 97, .push (.chr 120) "Other"], .chr 100]) "S"⟩]⟩ = false := by
  decide +kernel

/-- A case body that starts with `.` (`position++` under `parentDetect`), with a capture around it,
    and a nested switch inside a case: still in the fragment, code and semantics agree. -/
def Gdot : Grammar := ⟨[
  ⟨"S", 0, .ipush (.seq [
      .ualt [[(97, 97)], [(98, 99)]]
        [.seq [.push .dot "PegText", .name "Action0", .chr 120],
         .seq [.ualt [[(98, 98)]] [.seq [.chr 98, .name "Action0"], .chr 99], .chr 121],
         .chr 100],
      .peekNot .dot]) "S"⟩,
  ⟨"Action0", 1, .ipush (.act "A0") "Action0"⟩]⟩

example : GrammarOKNS (Kall Gdot) Gdot = true := by decide +kernel
example : [[97, 120], [97, 121], [97], [98, 121], [98, 120], [99, 121], [100], [], [101]].all (nsAgree Gdot) =
    true := by decide +kernel

/-! OBSERVATION (why the trace is stated over the derivation in `G'`, not in `G`): under `-noast`
    an action runs when it is reached, also inside an alternative that is abandoned later.  The
    ordered choice of `G` enters such an alternative, the switch of `G'` does not when the next
    symbol is not one of its keys.  `S <- (Action0 'a' 'x' / 'b' 'y' / 'c' 'z') !.` on "by": the
    plain `-noast` parser runs `A0` (first alternative, abandoned at 'a'), the `-noast -switch`
    parser goes straight to `case 'b'` and does not.  Verdict and end position are the same
    (`C07_switch_verdict`); the inline-action traces differ — each is `reachTrace` of its own
    grammar's events (`C07_inline_actions` for `G`, `C07_switch_inline_actions` for `G'`). -/

def Gd : Grammar := ⟨[
  ⟨"S", 0, .ipush (.seq [
      .alt [.seq [.name "Action0", .chr 97, .chr 120], .seq [.chr 98, .chr 121], .seq [.chr 99, .chr 122]],
      .peekNot .dot]) "S"⟩,
  ⟨"Action0", 1, .ipush (.act "A0") "Action0"⟩]⟩

/-- What the machine leaves after running the `-noast` code emitted for `g` on `inp`. -/
def runTrace (g : Grammar) (inp : List Sym) : Option (Outcome × Nat × List (String × List Sym)) :=
  (((compileAll noastOpts g).find "S").bind
    (fun c => execF (compileAll noastOpts g) cfgN inp 200 c 0 St.init Frame.empty)).map
    (fun r => (r.1, r.2.pos, r.2.trace))

/-- TEST: the optimiser rewrites the choice of `Gd`, the result passes `noastSwitchSafe` … -/
example : (optimise Gd).toOption.map (fun g =>
    (noastSwitchSafe Gd g, g.rules.any (fun r => SwitchTests.hasSwitch r.body))) = some (true, true) := by
  decide +kernel
/-- … the attempted-token lists on "by" differ (`Action0` is attempted by `G` only) … -/
example : ((evalF Gd ρ [98, 121] 30 (.name "S") 0).map (·.2),
    (optimise Gd).toOption.map (fun g => (evalF g ρ [98, 121] 30 (.name "S") 0).map (·.2))) =
    (some [⟨"Action0", 0, 0⟩, ⟨"S", 0, 2⟩], some (some [⟨"S", 0, 2⟩])) := by decide +kernel
/-- … and so do the traces of the two emitted `-noast` parsers, with the same verdict and position. -/
example : runTrace Gd [98, 121] = some (.ret true, 2, [("A0", [])]) := by rfl
example : (optimise Gd).toOption.map (fun g => runTrace g [98, 121]) =
    some (some (.ret true, 2, [])) := by rfl
example : (optimise Gd).toOption.map (fun g =>
    [[98, 121], [97, 120], [99, 122], [97], [98], []].all (fun i => nsAgree g i && nsVerdict Gd g i)) =
    some true := by decide +kernel

end C07SwitchExample

/-- The `-noast -switch` side condition is the AST-mode one (`switchSafe`, without its `LinkedOK`
    part) plus the `-noast` fragment check on the rewritten grammar. -/
theorem noastSwitchSafe_of_switchSafe {G G' : Grammar} (h : switchSafe G G' = true)
    (hN : GrammarOKN (Kall G') G' = true) : noastSwitchSafe G G' = true := by
  simp only [switchSafe, Bool.and_eq_true] at h
  simp only [noastSwitchSafe, noastSwitchSafeK, GrammarOKNS, Bool.and_eq_true]
  exact ⟨⟨h.1.1.1, h.1.1.2, hN⟩, h.2⟩

-- The bootstrap grammar (`peg.peg` after `link`, `SwitchTests.pegG`): the optimiser's output passes
-- `switchSafe` (`#guard safeOpt pegG == some true` in C02Switch.lean) and the `-noast` fragment
-- check, hence (`noastSwitchSafe_of_switchSafe`) the `-noast -switch` end-to-end check.
#guard (optimise SwitchTests.pegG).toOption.map (fun g => GrammarOKN (Kall g) g) == some true

end PegVerif

#print axioms PegVerif.noast_switch_world
#print axioms PegVerif.C07_switch_verdict
#print axioms PegVerif.C07_switch_inline_actions
#print axioms PegVerif.C07_switch_same_language_as_default
#print axioms PegVerif.C07_switch_generated_parser
#print axioms PegVerif.noastSwitchSafe_of_switchSafe
#print axioms PegVerif.RNS_all
#print axioms PegVerif.RNS_rule_all
#print axioms PegVerif.goodNS_ualt
#print axioms PegVerif.compileAll_worldNS
