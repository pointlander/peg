import PegVerif.Proofs.AstLemmas
/-
  C05 — `AST()` and the tree printers reproduce the derivation tree.

  Model: `Model/Ast.lean` (`astStack`, `astOf`, `printFunc`, `printTree`, `sprintSyntaxTree`,
  transcribed from `tree/peg.go.tmpl:50-130`); specification: `Model/AstSpec.lean` (`WellNested`,
  `prune`, `preorder`, `lineOf`); the stack invariant `StackBelow` of `C05_ast_from` is defined in
  Proofs/AstLemmas.lean.  The token list of a successful parse is `postorderL f` for the
  derivation forest `f` (`C03_tokens`); all theorems below hold for every forest, without any
  bound on size or depth.
-/
namespace PegVerif

/-! ## The tree -/

/-- `AST()`'s loop on the tokens of a well-nested forest pushes the pruned forest (the last tree on
    top) and leaves the old stack untouched: a parent pops exactly its non-empty children — also
    when parent and child span the same text (`>=` / `<=`) — and never an earlier sibling, and
    zero-width tokens between siblings disturb nothing. -/
theorem C05_ast_from {f st : List TokTree} {lo hi : Nat}
    (h : WellNestedL lo hi f) (hst : StackBelow lo st) :
    astStackFrom st (postorderL f) = (prune f).reverse ++ st :=
  astStackFrom_forest f st lo hi h hst

/-- The stack at the end of `AST()` is the pruned derivation forest (top = last tree). -/
theorem C05_ast {f : List TokTree} {lo hi : Nat} (h : WellNestedL lo hi f) :
    astStack (postorderL f) = (prune f).reverse := by
  simpa [astStack] using C05_ast_from h (StackBelow.nil lo)

/-- `AST()` returns the last non-empty top-level tree, pruned. -/
theorem C05_ast_last {f : List TokTree} {lo hi : Nat} (h : WellNestedL lo hi f) :
    astOf (postorderL f) = (prune f).getLast? := by
  simp [astOf, C05_ast h]

/-- If the root (the token of the start rule) is non-empty, `AST()` returns it with exactly its
    non-empty descendants, each node's children being the non-empty tokens nested directly inside
    it, in input order. -/
theorem C05_ast_root {root : TokTree} (h : WellNested root) (hne : root.tok.b ≠ root.tok.e) :
    astOf root.postorder = some (.node root.tok (prune root.kids)) := by
  cases root with
  | node t kids =>
    rw [astOf_node h, if_neg (by simpa using hne)]
    rfl

/-- If every token is empty, `AST()` returns nil (for ANY token list). -/
theorem C05_ast_none {toks : List Token} (h : ∀ t ∈ toks, t.b = t.e) : astOf toks = none := by
  rw [astOf, astStack, astStackFrom_of_empty h]
  rfl

/-- An empty root gives nil: everything below it is empty too. -/
theorem C05_ast_root_empty {root : TokTree} (h : WellNested root)
    (he : root.tok.b = root.tok.e) : astOf root.postorder = none := by
  cases root with
  | node t kids => rw [astOf_node h, if_pos (by simpa using he)]

/-- "Contains exactly the non-empty tokens" — for ANY token list (no nesting assumption): the
    nodes of the final stack, bottom to top in post-order, are the non-empty tokens in recording
    order, each exactly once. -/
theorem C05_ast_tokens (toks : List Token) :
    postorderL (astStack toks).reverse = toks.filter (fun t => t.b != t.e) := by
  simpa [astStack] using astStackFrom_postorder toks []

/-- The pruned forest has exactly the non-empty tokens of the forest, in the same order
    (so dropping an empty node "with everything below it" drops nothing non-empty). -/
theorem C05_prune_tokens {f : List TokTree} {lo hi : Nat} (h : WellNestedL lo hi f) :
    postorderL (prune f) = (postorderL f).filter (fun t => t.b != t.e) := by
  have := C05_ast_tokens (postorderL f)
  rwa [C05_ast h, List.reverse_reverse] at this

/-! ## The printers -/

/-- `print` writes the pre-order listing of the tree it is given: per node `depth` spaces, the rule
    name, a space, `quote (inp[b:e])`, newline; children one level deeper, in order. -/
theorem C05_print_tree (quote : List Sym → String) (pretty : Bool) (inp : List Sym)
    (n : Option TokTree) (h : ∀ k ∈ n, ∀ x ∈ k.postorder, InRange inp x) :
    printTree quote pretty inp n
      = some (String.join ((preorder 0 n.toList).map (lineOf quote pretty inp))) := by
  have : ∀ x ∈ postorderL n.toList, InRange inp x := by
    cases n with
    | none => intro x hx; simp at hx
    | some k => intro x hx; exact h k rfl x (by simpa using hx)
  simp [printTree, printLines, printFunc_eq quote pretty inp n.toList 0 this]

/-- `SprintSyntaxTree` is `print` after `AST()`: for any sliceable token list the pre-order listing
    of what `AST()` returned.  The C05 printing theorems below are this equation with `astOf` known. -/
theorem sprint_eq (quote : List Sym → String) (pretty : Bool) {inp : List Sym} {toks : List Token}
    (h : ∀ t ∈ toks, InRange inp t) :
    sprintSyntaxTree quote pretty inp toks
      = some (String.join ((preorder 0 (astOf toks).toList).map (lineOf quote pretty inp))) :=
  C05_print_tree quote pretty inp _ (astOf_inRange h)

/-- `SprintSyntaxTree` & co. on the tokens of a parse with non-empty root: the pre-order listing of
    the pruned derivation tree, every node with its rule name and the exact input substring. -/
theorem C05_print (quote : List Sym → String) (pretty : Bool) (inp : List Sym)
    {root : TokTree} (h : WellNested root) (hne : root.tok.b ≠ root.tok.e)
    (hlen : root.tok.e ≤ inp.length) :
    sprintSyntaxTree quote pretty inp root.postorder
      = some (String.join ((preorder 0 (pruneT root)).map (lineOf quote pretty inp))) := by
  rw [sprint_eq quote pretty (h.inRange hlen), C05_ast_root h hne]
  cases root with
  | node t kids =>
    simp only [tok_node] at hne
    simp [hne]

/-- The same for an arbitrary forest (what `AST()` returns is its last non-empty tree). -/
theorem C05_print_forest (quote : List Sym → String) (pretty : Bool) (inp : List Sym)
    {f : List TokTree} {lo hi : Nat} (h : WellNestedL lo hi f)
    (hr : ∀ x ∈ postorderL f, InRange inp x) :
    sprintSyntaxTree quote pretty inp (postorderL f)
      = some (String.join
          ((preorder 0 (prune f).getLast?.toList).map (lineOf quote pretty inp))) := by
  rw [sprint_eq quote pretty hr, C05_ast_last h]

/-- No nil dereference: printing the nil tree (empty parse) writes nothing. -/
theorem C05_print_nil (quote : List Sym → String) (pretty : Bool) (inp : List Sym) :
    printTree quote pretty inp none = some "" := by
  simp [printTree, printLines]

theorem C05_print_empty_parse (quote : List Sym → String) (pretty : Bool) (inp : List Sym)
    {toks : List Token} (h : ∀ t ∈ toks, t.b = t.e) :
    sprintSyntaxTree quote pretty inp toks = some "" := by
  rw [sprintSyntaxTree, C05_ast_none h, C05_print_nil]

/-- No panic, for ANY token list whose tokens can be sliced out of the input
    (`begin ≤ end ≤ len([]rune(buffer))`). -/
theorem C05_print_no_panic (quote : List Sym → String) (pretty : Bool) (inp : List Sym)
    {toks : List Token} (h : ∀ t ∈ toks, InRange inp t) :
    (sprintSyntaxTree quote pretty inp toks).isSome = true := by
  rw [sprint_eq quote pretty h]
  rfl

/-! ## Non-vacuity: a forest of depth 5 with an equal-span parent/child pair (`A`/`B`), a
    zero-width token between siblings (`Opt`, with a zero-width action below it), two captures and
    three action tokens; input `"abc"`. -/

namespace C05Example

def inp : List Sym := [97, 98, 99]

def root : TokTree :=
  .node ⟨"S", 0, 3⟩ [
    .node ⟨"A", 0, 2⟩ [
      .node ⟨"B", 0, 2⟩ [
        .node ⟨"PegText", 0, 1⟩ [.node ⟨"C", 0, 1⟩ []],
        .node ⟨"Action0", 1, 1⟩ [],
        .node ⟨"D", 1, 2⟩ []]],
    .node ⟨"Opt", 2, 2⟩ [.node ⟨"Action1", 2, 2⟩ []],
    .node ⟨"E", 2, 3⟩ [.node ⟨"PegText", 2, 3⟩ []],
    .node ⟨"Action0", 3, 3⟩ []]

/-- What C05 promises for `root`. -/
def expected : TokTree :=
  .node ⟨"S", 0, 3⟩ [
    .node ⟨"A", 0, 2⟩ [
      .node ⟨"B", 0, 2⟩ [
        .node ⟨"PegText", 0, 1⟩ [.node ⟨"C", 0, 1⟩ []],
        .node ⟨"D", 1, 2⟩ []]],
    .node ⟨"E", 2, 3⟩ [.node ⟨"PegText", 2, 3⟩ []]]

/-- A stand-in for `strconv.Quote` (a parameter of the model). -/
def quote (s : List Sym) : String := "\"" ++ String.ofList (s.map Char.ofNat) ++ "\""

example : WellNested root := by decide
example : root.tok.b ≠ root.tok.e := by decide
example : ∀ x ∈ root.postorder, InRange inp x := by decide
example : root.postorder =
    [⟨"C", 0, 1⟩, ⟨"PegText", 0, 1⟩, ⟨"Action0", 1, 1⟩, ⟨"D", 1, 2⟩, ⟨"B", 0, 2⟩, ⟨"A", 0, 2⟩,
     ⟨"Action1", 2, 2⟩, ⟨"Opt", 2, 2⟩, ⟨"PegText", 2, 3⟩, ⟨"E", 2, 3⟩, ⟨"Action0", 3, 3⟩,
     ⟨"S", 0, 3⟩] := by decide
example : pruneT root = [expected] := by decide
example : sprintSyntaxTree quote false inp root.postorder
    = some "S \"abc\"\n A \"ab\"\n  B \"ab\"\n   PegText \"a\"\n    C \"a\"\n   D \"b\"\n E \"c\"\n  PegText \"c\"\n" := by
  decide
-- a token that cannot be sliced is reported, not truncated
example : sprintSyntaxTree quote false inp [⟨"S", 0, 4⟩] = none := by decide
-- the pop condition with `>` / `<` instead of `>=` / `<=` would leave `B` beside `A`:
-- the theorem is about the real condition
example : astStack [⟨"B", 0, 2⟩, ⟨"A", 0, 2⟩] = [.node ⟨"A", 0, 2⟩ [.node ⟨"B", 0, 2⟩ []]] := by
  decide

#eval astOf root.postorder
#eval sprintSyntaxTree quote false inp root.postorder

end C05Example

end PegVerif

#print axioms PegVerif.C05_ast_from
#print axioms PegVerif.C05_ast
#print axioms PegVerif.C05_ast_last
#print axioms PegVerif.C05_ast_root
#print axioms PegVerif.C05_ast_none
#print axioms PegVerif.C05_ast_root_empty
#print axioms PegVerif.C05_ast_tokens
#print axioms PegVerif.C05_prune_tokens
#print axioms PegVerif.C05_print_tree
#print axioms PegVerif.C05_print
#print axioms PegVerif.C05_print_forest
#print axioms PegVerif.C05_print_nil
#print axioms PegVerif.C05_print_empty_parse
#print axioms PegVerif.C05_print_no_panic
