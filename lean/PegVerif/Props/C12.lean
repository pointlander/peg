import PegVerif.Props.C03
import PegVerif.Props.C11
/-
  C12 — a parser can be reused: `Buffer = x; Reset(); Parse()` behaves like a fresh parser.

  `reset()` clears position, tokenIndex, maxToken, the memo table (and `text` under -noast) and
  rebuilds the rune buffer; the only thing that survives is the token buffer `tree`, whose content
  beyond `tokenIndex = 0` is dead.  R is stated for an arbitrary admissible start state, so the
  stale buffer is covered: what a parse publishes depends on the live prefix only.
-/
namespace PegVerif

variable {P : Program} {cfg : Cfg} {env : CEnv} {G : Grammar} {inp : List Sym}

/-- **C12**: from any post-`Reset` state (arbitrary stale token buffer), every run of rule `n`
    yields the verdict, end position, published tokens and error token that the semantics
    prescribes — hence the same as a freshly constructed parser on that input (`afterReset_init`),
    for every history of earlier inputs. -/
theorem C12_reset_like_fresh (hW : World P cfg env G inp) {n cr res evs s o s'}
    (hs : AfterReset s) (hfind : P.find n = some cr)
    (hev : Eval G cfg.rho inp (.name n) 0 res evs)
    (hrun : Exec P cfg inp cr 0 s Frame.empty (o, s')) :
    match res with
    | .ok p' forest => o = .ret true ∧ s'.pos = p' ∧ s'.tree.take s'.ti = postorderL forest
    | .fail => o = .ret false ∧ s'.maxTok = evs.foldl updTok zeroTok := by
  have h := R_afterReset hW hs hfind hev hrun
  cases res with
  | ok p' forest => exact ⟨h.out, h.pos, h.toks⟩
  | fail => exact ⟨h.out, h.maxTok⟩

/-- Two parsers — one fresh, one reused after any history — cannot be told apart by a parse. -/
theorem C12_history_irrelevant (hW : World P cfg env G inp) {n cr res evs s1 s2 o1 o2 t1 t2}
    (h1 : AfterReset s1) (h2 : AfterReset s2) (hfind : P.find n = some cr)
    (hev : Eval G cfg.rho inp (.name n) 0 res evs)
    (r1 : Exec P cfg inp cr 0 s1 Frame.empty (o1, t1))
    (r2 : Exec P cfg inp cr 0 s2 Frame.empty (o2, t2)) :
    o1 = o2 ∧ t1.pos = t2.pos ∧ (o1 = .ret true → t1.tree.take t1.ti = t2.tree.take t2.ti) ∧
    (o1 = .ret false → t1.maxTok = t2.maxTok) := by
  obtain ⟨ho, hp, _, htoks, hmt⟩ := runs_agree hW hW h1 h2 hfind hfind hev hev r1 r2
  exact ⟨ho, hp, fun _ => htoks, fun _ => hmt⟩

end PegVerif

#print axioms PegVerif.C12_reset_like_fresh
#print axioms PegVerif.C12_history_irrelevant
