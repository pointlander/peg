import PegVerif.Props.C11Err
import PegVerif.Props.C01
import PegVerif.Proofs.EventLemmas
/-
  C11 — derivation-level statements: when does `Parse` return an error, which token does it
  carry, and why producing the message cannot panic.  (The message itself — line/column of begin
  and end, the quoted text — is `error_spec` / `translate_spec` in C11Err.)  `World`: head of
  Props/C01.lean; `updTok`, the update of `maxToken` in `add`: Proofs/MachineLemmas.lean.
-/
namespace PegVerif

variable {P : Program} {cfg : Cfg} {env : CEnv} {G : Grammar} {inp : List Sym}

/-- **C11** (an error iff no match — that a match returns true is `C01_refines` — and which token):
    every run of a failing parse returns false with `maxToken` = the fold of `add`'s update over
    every attempted token, in attempt order. -/
theorem C11_maxTok (hW : World P cfg env G inp) {n cr evs o s'}
    (hfind : P.find n = some cr) (hev : Eval G cfg.rho inp (.name n) 0 .fail evs)
    (hrun : Exec P cfg inp cr 0 St.init Frame.empty (o, s')) :
    o = .ret false ∧ s'.maxTok = evs.foldl updTok zeroTok := by
  have h := R_afterReset hW afterReset_init hfind hev hrun
  exact ⟨h.out, h.maxTok⟩

/-- What that fold is: the zero token if no non-empty token was attempted, otherwise an attempted
    non-empty token beyond whose end no attempted non-empty token reaches. -/
theorem C11_maxTok_furthest (evs : List Token) :
    let r := evs.foldl updTok zeroTok
    (r = zeroTok ∨ (r ∈ evs ∧ r.b ≠ r.e)) ∧ (∀ t ∈ evs, t.b ≠ t.e → t.e ≤ r.e) := by
  have := foldl_updTok_spec evs zeroTok
  exact ⟨this.1, this.2.2⟩

/-- … and it is the FIRST such token in attempt order. -/
theorem C11_maxTok_first (pre post : List Token) (t : Token)
    (h : (pre ++ t :: post).foldl updTok zeroTok = t) (hne : t.b ≠ t.e) (hnew : t ∉ pre) (hp : t ∉ post) :
    ∀ x ∈ pre, x.b ≠ x.e → x.e < t.e := by
  have hmt : t ≠ zeroTok := by intro e; rw [e] at hne; simp [zeroTok] at hne
  exact (foldl_updTok_first pre post t zeroTok h hnew hp hmt).1

/-- The error token lies within the input, so `Error()` cannot panic and quotes exactly
    `inp[b:e]` (`error_no_panic`, `error_spec`, `error_quote_input` apply). -/
theorem C11_token_in_input {n evs} (hev : Eval G cfg.rho inp (.name n) 0 .fail evs) :
    let r := evs.foldl updTok zeroTok
    r.b ≤ r.e ∧ r.e < (bufOf inp).length := by
  have hb := Eval_events_bound hev (Nat.zero_le _)
  rcases (foldl_updTok_spec evs zeroTok).1 with h | h
  · simp only [h]; simp [zeroTok, bufOf]
  · have := hb _ h.1
    simp only [bufOf, List.length_append, List.length_singleton]
    omega

/-- Consequently the message is produced without panic (what it says: `error_spec`, C11Err). -/
theorem C11_error_message {n evs} (hev : Eval G cfg.rho inp (.name n) 0 .fail evs)
    (pretty : Bool) (quote : List Sym → String) :
    (errorString (evs.foldl updTok zeroTok).rule (bufOf inp) (evs.foldl updTok zeroTok).b
      (evs.foldl updTok zeroTok).e pretty quote).isSome :=
  have h := C11_token_in_input (G := G) (cfg := cfg) hev
  error_no_panic _ _ _ _ pretty quote h.1 h.2

end PegVerif

#print axioms PegVerif.C11_maxTok
#print axioms PegVerif.C11_maxTok_furthest
#print axioms PegVerif.C11_maxTok_first
#print axioms PegVerif.C11_token_in_input
#print axioms PegVerif.C11_error_message
