import PegVerif.Proofs.RunFacts
import PegVerif.Proofs.SemLemmas
import PegVerif.Proofs.WorldLemmas
import PegVerif.Proofs.AlwaysLemmas
import PegVerif.Proofs.TotalLemmas
/-
  C01 — the generated parser recognises exactly the grammar's PEG language.

  `World P cfg env G inp` collects what is assumed about the emitted program `P` (every function is
  the emission of its rule's body, labels unique, `CheckAlwaysSucceeds` sound, AST mode; memoisation
  on or off, see C06) and about the input (runes below the end symbol).
-/
namespace PegVerif

variable {P : Program} {cfg : Cfg} {env : CEnv} {G : Grammar} {inp : List Sym}

/-- The PEG semantics assigns at most one outcome to an expression at a position, so "succeeds
    exactly when" is well defined. -/
theorem C01_semantics_deterministic {ρ e p r1 ev1 r2 ev2}
    (h1 : Eval G ρ inp e p r1 ev1) (h2 : Eval G ρ inp e p r2 ev2) : r1 = r2 ∧ ev1 = ev2 :=
  Eval_det h1 h2

/-- The reference interpreter used as oracle by the differential checks is sound for the
    relational semantics, for every fuel. -/
theorem C01_oracle_sound {ρ} (fuel : Nat) (e : Expr) (p : Nat) (res : Res) (evs : List Token)
    (h : evalF G ρ inp fuel e p = some (res, evs)) : Eval G ρ inp e p res evs :=
  evalF_sound fuel e p res evs h

/-- **C01** (for any rule `n` used as entry point, from a fresh parser): every run of the emitted
    function of `n` returns `true` exactly when the PEG semantics of `n` matches a prefix, then the
    position is the end of exactly that prefix, and it never panics. -/
theorem C01_refines (hW : World P cfg env G inp) {n cr res evs o s'}
    (hfind : P.find n = some cr) (hev : Eval G cfg.rho inp (.name n) 0 res evs)
    (hrun : Exec P cfg inp cr 0 St.init Frame.empty (o, s')) :
    (o = .ret true ↔ ∃ p' f, res = .ok p' f) ∧ (∀ p' f, res = .ok p' f → s'.pos = p') ∧
    (o = .ret false ↔ res = .fail) ∧ o ≠ .panic :=
  (R_afterReset hW afterReset_init hfind hev hrun).fresh

/-- The same from any admissible state and position (rule functions called in the middle of a
    parse, entry by any rule constant). -/
theorem C01_refines_anywhere (hW : World P cfg env G inp) {n cr p res evs s o s'}
    (hfind : P.find n = some cr) (hev : Eval G cfg.rho inp (.name n) p res evs)
    (hpos : s.pos = p) (hple : p ≤ inp.length) (hlen : s.ti ≤ s.tree.length)
    (hm : MemoOK P G cfg.rho inp s.memo s.maxTok.e)
    (hrun : Exec P cfg inp cr 0 s Frame.empty (o, s')) : RuleSpec P G cfg.rho inp s p res evs o s' :=
  R_rule_all hW hfind hev hpos hple hlen hm hrun

/-- … and such a run exists (the emitted function terminates whenever the semantics does). -/
theorem C01_run_exists (hW : World P cfg env G inp) {n cr res evs}
    (hfind : P.find n = some cr) (hev : Eval G cfg.rho inp (.name n) 0 res evs) :
    ∃ o s', Exec P cfg inp cr 0 St.init Frame.empty (o, s') :=
  let ⟨o, s', h, _⟩ := R_rule hW hfind hev rfl (Nat.zero_le _) (by simp [St.init]) memoOK_init
  ⟨o, s', h⟩

/-- The executable model used by the T-run tie obeys the theorem (it is not a separate artefact). -/
theorem C01_parseF (hW : World P cfg env G inp) {n cr res evs fuel pr st}
    (hfind : P.find n = some cr) (hev : Eval G cfg.rho inp (.name n) 0 res evs)
    (hrun : parseF P cfg inp fuel n St.init = (pr, st)) (hfuel : pr ≠ .stuck) :
    match res with
    | .ok p' forest => pr = .ok (postorderL forest) ∧ st.pos = p'
    | .fail => pr = .fail (evs.foldl updTok zeroTok) :=
  R_parseF hW hfind hev hrun hfuel

/-- **C01 for the generator itself** (default options, memoisation on or off): `World` is discharged
    for the program the MODEL GENERATOR emits for a linked grammar that passes the decidable check
    `GrammarOK` (terminals below the end symbol, no reference from an emitted rule to a rule without
    function) and is `plain`; the T-emit tie says the real generator emits this very program. -/
theorem C01_generated_parser (G : Grammar) (o : Opts) (cfg : Cfg) (inp : List Sym)
    (hinl : o.inline = false) (hsw : o.switch = false) (hast : o.ast = true)
    (hcfg : cfg.ast = true)
    (hinp : ∀ c ∈ inp, c ≠ END) (hG : GrammarOK G = true) (hL : LinkedOK G = true) (hplain : G.plain)
    {n cr res evs out s'} (hfind : (compileAll o G).find n = some cr)
    (hev : Eval G cfg.rho inp (.name n) 0 res evs)
    (hrun : Exec (compileAll o G) cfg inp cr 0 St.init Frame.empty (out, s')) :
    (out = .ret true ↔ ∃ p' f, res = .ok p' f) ∧ (∀ p' f, res = .ok p' f → s'.pos = p') ∧
    (out = .ret false ↔ res = .fail) ∧ out ≠ .panic :=
  C01_refines
    (compileAll_world' hsw hinl hast hcfg hinp hG hL hplain)
    hfind hev hrun

/-- **C01, absolute form** (Ford's totality theorem `Eval_total` + R): for a grammar that passes the
    decidable well-formedness check `WFB` (no left recursion, no `*`/`+` over an expression that can
    succeed without consuming, every name defined) the semantics assigns an outcome to every rule on
    every input, a run of the emitted function exists, and every run shows exactly that outcome. -/
theorem C01_wellformed (G : Grammar) (o : Opts) (cfg : Cfg) (inp : List Sym)
    (hwf : WFB G = true)
    (hinl : o.inline = false) (hsw : o.switch = false) (hast : o.ast = true) (hcfg : cfg.ast = true)
    (hinp : ∀ c ∈ inp, c ≠ END) (hG : GrammarOK G = true) (hL : LinkedOK G = true) (hplain : G.plain)
    {n cr} (hfind : (compileAll o G).find n = some cr) :
    ∃ res evs, Eval G cfg.rho inp (.name n) 0 res evs ∧
      (∃ out s', Exec (compileAll o G) cfg inp cr 0 St.init Frame.empty (out, s')) ∧
      ∀ out s', Exec (compileAll o G) cfg inp cr 0 St.init Frame.empty (out, s') →
        (out = .ret true ↔ ∃ p' f, res = .ok p' f) ∧ (∀ p' f, res = .ok p' f → s'.pos = p') ∧
        (out = .ret false ↔ res = .fail) ∧ out ≠ .panic := by
  have hW := compileAll_world' (cfg := cfg) (inp := inp) hsw hinl hast hcfg hinp hG hL hplain
  obtain ⟨b, hb⟩ := hW.body_of_find hfind
  obtain ⟨res, evs, hev⟩ := Eval_total (ρ := cfg.rho) hwf inp n b hb 0 (Nat.zero_le _)
  exact ⟨res, evs, hev, C01_run_exists hW hfind hev, fun out s' hrun => C01_refines hW hfind hev hrun⟩

/-! ### Non-vacuity

    A grammar using sequence, choice, `*`, `!`, rule reference and a capture has derivations, found by the interpreter and certified by `C01_oracle_sound`. -/
def exG : Grammar := { rules := [
  { name := "S", id := 0, body := .ipush (.seq [.star (.alt [.name "A", .chr 98]), .peekNot .dot]) "S" },
  { name := "A", id := 1, body := .ipush (.push (.chr 97) "PegText") "A" }] }

example : ∃ f evs, Eval exG (fun _ _ => true) [97, 98, 97] (.name "S") 0 (.ok 3 f) evs :=
  ⟨_, _, evalF_sound 20 _ _ _ _ (by rfl)⟩

example : ∃ evs, Eval exG (fun _ _ => true) [97, 99] (.name "S") 0 .fail evs :=
  ⟨_, evalF_sound 20 _ _ _ _ (by rfl)⟩

/-- The hypotheses of `C01_generated_parser` are satisfiable: the example grammar passes both checks
    and both of its rules get a function. -/
example : WFB exG = true ∧ GrammarOK exG = true ∧ LinkedOK exG = true ∧ exG.plain ∧ ((compileAll {} exG).find "S").isSome = true ∧
    ((compileAll {} exG).find "A").isSome = true :=
  ⟨by decide, by decide, by decide, Grammar.plain_of_all (by decide), by decide, by decide⟩

end PegVerif

#print axioms PegVerif.C01_semantics_deterministic
#print axioms PegVerif.C01_oracle_sound
#print axioms PegVerif.C01_refines
#print axioms PegVerif.C01_refines_anywhere
#print axioms PegVerif.C01_run_exists
#print axioms PegVerif.C01_parseF
#print axioms PegVerif.C01_generated_parser
#print axioms PegVerif.C01_wellformed
