import PegVerif.Props.C07Switch
import PegVerif.Proofs.WorldNoastInline
import PegVerif.Proofs.Implements
/-
  C07 for the option sets `-inline -noast` (`in`) and `-inline -noast -switch` (`isn`).

  In Go: link → (`-switch`: rewrite of the grammar, giving `G'`) → emission with `-inline` (a
  reference to a rule with exactly one reference compiles the rule's body in place and hands its
  `parentDetect` flags to it) and `-noast`.  In the model: `compileAll o G'` with `o.inline = true`,
  `o.ast = false` (`o.switch` is not read by the emission).

  `WorldNS` for `compileAll o G'` holds with respect to the EXPANDED grammar `expandG o G'`, and
  `Eval (expandG o G') … res evs ↔ Eval G' … res evs` (`Eval_expandG_iff`) with THE SAME
  attempted-token list: `-inline` changes neither the result, nor the forest, nor the events.  Hence
  `in` has literally the statements of `Props/C07.lean` (the `-inline -noast` parser runs exactly
  the actions the plain `-noast` parser runs), and `isn` those of `Props/C07Switch.lean`: verdict
  and end of the SOURCE grammar `G`, trace over the events of the REWRITTEN grammar `G'`.
-/
namespace PegVerif
open Noast

/-! ### `-inline -noast` (option set `in`): against the original grammar -/

/-- RNS for the program emitted with `-inline -noast`, read against the ORIGINAL grammar: the
    expansion has the derivations of `G`, with the same attempted tokens (`Eval_expandG`). -/
theorem inline_noast_ruleSpec (K : NKit) (G : Grammar) (o : Opts) (cfg : Cfg) (inp : List Sym)
    (hsafe : inlineNoastSafeK K G = true)
    (hinl : o.inline = true) (hast : o.ast = false) (hcfg : cfg.ast = false)
    (hinp : ∀ c ∈ inp, c ≠ END)
    {n cr p res evs s out s'} (hfind : (compileAll o G).find n = some cr)
    (hev : Eval G cfg.rho inp (.name n) p res evs)
    (hpos : s.pos = p) (hple : p ≤ inp.length)
    (hrun : Exec (compileAll o G) cfg inp cr 0 s Frame.empty (out, s')) :
    RuleSpecN K inp s p res evs out s' :=
  RNS_rule_all (inline_noast_world K G o cfg inp hsafe hinl hast hcfg hinp) hfind (Eval_expandG hev)
    hpos hple hrun

/-- **C07, `-inline -noast`, same language as the default parser**: the statement of
    `C07_same_language_as_default` for the parser emitted with `-inline -noast` under
    `inlineNoastSafe`; neither parser panics. -/
theorem C07_inline_same_language_as_default (G : Grammar) (o o' : Opts) (cfg cfgN : Cfg)
    (inp : List Sym) (hsafe : inlineNoastSafe G = true)
    (hinl : o.inline = false) (hsw : o.switch = false) (hast : o.ast = true) (hcfg : cfg.ast = true)
    (hG : GrammarOK G = true) (hL : LinkedOK G = true) (hplain : G.plain)
    (hinl' : o'.inline = true) (hast' : o'.ast = false) (hcfgN : cfgN.ast = false)
    (hrho : cfg.rho = cfgN.rho) (hinp : ∀ c ∈ inp, c ≠ END)
    {n crA crN p res evs sA sN oA oN sA' sN'}
    (hfindA : (compileAll o G).find n = some crA) (hfindN : (compileAll o' G).find n = some crN)
    (hev : Eval G cfg.rho inp (.name n) p res evs)
    (hposA : sA.pos = p) (hposN : sN.pos = p) (hple : p ≤ inp.length)
    (hlen : sA.ti ≤ sA.tree.length) (hm : MemoOK (compileAll o G) G cfg.rho inp sA.memo sA.maxTok.e)
    (hrunA : Exec (compileAll o G) cfg inp crA 0 sA Frame.empty (oA, sA'))
    (hrunN : Exec (compileAll o' G) cfgN inp crN 0 sN Frame.empty (oN, sN')) :
    oA = oN ∧ oN ≠ .panic ∧ sA'.pos = sN'.pos := by
  have hWA := compileAll_world' (cfg := cfg) (inp := inp) hsw hinl hast hcfg hinp hG hL hplain
  have a := (R_rule_all hWA hfindA hev hposA hple hlen hm hrunA).verdict
  have b := (inline_noast_ruleSpec (Kall G) G o' cfgN inp hsafe hinl' hast' hcfgN hinp hfindN
    (hrho ▸ hev) hposN hple hrunN).verdict
  exact ⟨(a.agree b).1, b.ne_panic, (a.agree b).2⟩

/-- **`-inline` does not change which actions run** (`-noast`): the plain `-noast` parser and the
    `-inline -noast` parser generated for the same grammar, started at the same position with the
    same trace and `text`, give the same verdict, end at the same position and leave the same trace
    and the same `text` — `reachTrace` over the one attempted-token list of `G`. -/
theorem C07_inline_same_trace_as_noast (G : Grammar) (o o' : Opts) (cfg : Cfg) (inp : List Sym)
    (hsafe : inlineNoastSafe G = true)
    (hinl : o.inline = false) (hsw : o.switch = false) (hast : o.ast = false)
    (hG : GrammarOK G = true) (hN : GrammarOKN (Kall G) G = true) (hplain : G.plain)
    (hinl' : o'.inline = true) (hast' : o'.ast = false) (hcfg : cfg.ast = false)
    (hinp : ∀ c ∈ inp, c ≠ END)
    {n cr cr' p res evs s t out out' s' t'}
    (hfind : (compileAll o G).find n = some cr) (hfind' : (compileAll o' G).find n = some cr')
    (hev : Eval G cfg.rho inp (.name n) p res evs)
    (hs : s.pos = p) (ht : t.pos = p) (hple : p ≤ inp.length)
    (htrace : s.trace = t.trace) (htext : s.text = t.text)
    (hrun : Exec (compileAll o G) cfg inp cr 0 s Frame.empty (out, s'))
    (hrun' : Exec (compileAll o' G) cfg inp cr' 0 t Frame.empty (out', t')) :
    out = out' ∧ s'.pos = t'.pos ∧ s'.trace = t'.trace ∧ s'.text = t'.text := by
  have hW := compileAll_worldN' (K := Kall G) (cfg := cfg) (inp := inp) hsw hinl hast hcfg hinp hG hN
    hplain
  have va := RN_rule_all hW hfind hev hs hple hrun
  have vb := inline_noast_ruleSpec (Kall G) G o' cfg inp hsafe hinl' hast' hcfg hinp hfind' hev ht hple hrun'
  have a := va.eff.actions_Kall
  have b := vb.eff.actions_Kall
  obtain ⟨ho, hp⟩ := va.verdict.agree vb.verdict
  exact ⟨ho, hp, by rw [a.1, b.1, htrace, htext], by rw [a.2.1, b.2.1, htext]⟩

/-- **C07 for the generator itself, `-inline -noast`**: the statement of `C07_generated_parser`,
    with `WorldNS` discharged from the decidable check `inlineNoastSafe`; trace and `text` are
    `reachTrace` over the attempted-token list of `G` itself. -/
theorem C07_inline_generated_parser (G : Grammar) (o : Opts) (cfg : Cfg) (inp : List Sym)
    (hinl : o.inline = true) (hast : o.ast = false) (hcfg : cfg.ast = false)
    (hinp : ∀ c ∈ inp, c ≠ END) (hsafe : inlineNoastSafe G = true)
    {n cr res evs out s'} (hfind : (compileAll o G).find n = some cr)
    (hev : Eval G cfg.rho inp (.name n) 0 res evs)
    (hrun : Exec (compileAll o G) cfg inp cr 0 St.init Frame.empty (out, s')) :
    (out = .ret true ↔ ∃ p' f, res = .ok p' f) ∧ (∀ p' f, res = .ok p' f → s'.pos = p') ∧
    (out = .ret false ↔ res = .fail) ∧ out ≠ .panic ∧
    s'.trace = (reachTrace (actionCodeOf G) inp evs []).1 ∧
    s'.text = (reachTrace (actionCodeOf G) inp evs []).2 :=
  (inline_noast_ruleSpec (Kall G) G o cfg inp hsafe hinl hast hcfg hinp hfind hev rfl (Nat.zero_le _)
    hrun).fresh

/-- … with the derivation supplied by totality (`WFB G`): a run exists and every run is as above. -/
theorem C07_inline_generated_parser_total (G : Grammar) (o : Opts) (cfg : Cfg) (inp : List Sym)
    (hwf : WFB G = true) (hsafe : inlineNoastSafe G = true)
    (hinl : o.inline = true) (hast : o.ast = false) (hcfg : cfg.ast = false)
    (hinp : ∀ c ∈ inp, c ≠ END)
    {n cr} (hfind : (compileAll o G).find n = some cr) :
    ∃ res evs, Eval G cfg.rho inp (.name n) 0 res evs ∧
      (∃ out s', Exec (compileAll o G) cfg inp cr 0 St.init Frame.empty (out, s')) ∧
      ∀ out s', Exec (compileAll o G) cfg inp cr 0 St.init Frame.empty (out, s') →
        (out = .ret true ↔ ∃ p' f, res = .ok p' f) ∧ (∀ p' f, res = .ok p' f → s'.pos = p') ∧
        (out = .ret false ↔ res = .fail) ∧ out ≠ .panic ∧
        s'.trace = (reachTrace (actionCodeOf G) inp evs []).1 ∧
        s'.text = (reachTrace (actionCodeOf G) inp evs []).2 := by
  obtain ⟨res, evs, _, hev, _, hall⟩ := implements_noast
    (inline_noast_world (Kall G) G o cfg inp hsafe hinl hast hcfg hinp)
    ((Bridge.self hwf).expand o) hfind (Nat.zero_le _)
  exact ⟨res, evs, hev, (hall St.init rfl).1, fun out s' hrun =>
    C07_inline_generated_parser G o cfg inp hinl hast hcfg hinp hsafe hfind hev hrun⟩

/-! ### `-inline -noast -switch` (option set `isn`): against the source grammar -/

theorem inline_noast_switch_world (K : NKit) (G G' : Grammar) (o : Opts) (cfg : Cfg) (inp : List Sym)
    (hsafe : inlineNoastSwitchSafeK K G G' = true)
    (hinl : o.inline = true) (hast : o.ast = false) (hcfg : cfg.ast = false)
    (hinp : ∀ c ∈ inp, c ≠ END) :
    WorldNS K (compileAll o G') cfg (realEnv o G') (expandG o G') inp := by
  simp only [inlineNoastSwitchSafeK, Bool.and_eq_true] at hsafe
  exact inline_noast_world K G' o cfg inp hsafe.2 hinl hast hcfg hinp

theorem inline_noast_switch_bridge {K : NKit} {G G' : Grammar} (hwf : WFB G = true)
    (hsafe : inlineNoastSwitchSafeK K G G' = true) (o : Opts) : Bridge G (expandG o G') := by
  simp only [inlineNoastSwitchSafeK, Bool.and_eq_true] at hsafe
  exact (Bridge.switch hwf hsafe.1).expand o

/-- **C07, `-inline -noast -switch`, verdict**: what `C07_switch_verdict` says, of the parser emitted
    with `-inline -noast` from a rewritten grammar `G'` that passes `inlineNoastSwitchSafe` — verdict
    and end are those of the PEG semantics of the ORIGINAL grammar `G`. -/
theorem C07_inline_switch_verdict (G G' : Grammar) (o : Opts) (cfg : Cfg) (inp : List Sym)
    (hwf : WFB G = true) (hsafe : inlineNoastSwitchSafe G G' = true)
    (hinl : o.inline = true) (hast : o.ast = false) (hcfg : cfg.ast = false)
    (hinp : ∀ c ∈ inp, c ≠ END)
    {n cr} (hfind : (compileAll o G').find n = some cr) {p : Nat} (hple : p ≤ inp.length) :
    ∃ res evs, Eval G cfg.rho inp (.name n) p res evs ∧
      (∀ s, s.pos = p → ∃ out s', Exec (compileAll o G') cfg inp cr 0 s Frame.empty (out, s')) ∧
      ∀ s out s', s.pos = p → Exec (compileAll o G') cfg inp cr 0 s Frame.empty (out, s') →
        out ≠ .panic ∧ (out = .ret true ↔ ∃ p' f, res = .ok p' f) ∧ (out = .ret false ↔ res = .fail) ∧
        (∀ p' f, res = .ok p' f → s'.pos = p') ∧ (res = .fail → s'.pos = p) := by
  obtain ⟨res, evs, _, hev, _, hall⟩ := implements_noast
    (inline_noast_switch_world (Kall G') G G' o cfg inp hsafe hinl hast hcfg hinp)
    (inline_noast_switch_bridge hwf hsafe o) hfind hple
  exact ⟨res, evs, hev, fun s hs => (hall s hs).1,
    fun s out s' hs hrun => ((hall s hs).2 out s' hrun).verdict.spec⟩

/-- **C07, `-inline -noast -switch`, same language as the default parser** (shape of
    `C07_switch_same_language_as_default`). -/
theorem C07_inline_switch_same_language_as_default (G G' : Grammar) (o o' : Opts) (cfg cfgN : Cfg)
    (inp : List Sym) (hwf : WFB G = true) (hsafe : inlineNoastSwitchSafe G G' = true)
    (hinl : o.inline = false) (hsw : o.switch = false) (hast : o.ast = true) (hcfg : cfg.ast = true)
    (hG : GrammarOK G = true) (hL : LinkedOK G = true) (hplain : G.plain)
    (hinl' : o'.inline = true) (hast' : o'.ast = false) (hcfgN : cfgN.ast = false)
    (hrho : cfg.rho = cfgN.rho) (hinp : ∀ c ∈ inp, c ≠ END)
    {n crA crN} (hfindA : (compileAll o G).find n = some crA)
    (hfindN : (compileAll o' G').find n = some crN)
    {p sA sN oA oN sA' sN'} (hposA : sA.pos = p) (hposN : sN.pos = p) (hple : p ≤ inp.length)
    (hlen : sA.ti ≤ sA.tree.length) (hm : MemoOK (compileAll o G) G cfg.rho inp sA.memo sA.maxTok.e)
    (hrunA : Exec (compileAll o G) cfg inp crA 0 sA Frame.empty (oA, sA'))
    (hrunN : Exec (compileAll o' G') cfgN inp crN 0 sN Frame.empty (oN, sN')) :
    oA = oN ∧ oN ≠ .panic ∧ sA'.pos = sN'.pos := by
  obtain ⟨res, evs, _, hev, _, hall⟩ := implements_noast
    (inline_noast_switch_world (Kall G') G G' o' cfgN inp hsafe hinl' hast' hcfgN hinp)
    (inline_noast_switch_bridge hwf hsafe o') hfindN hple
  have hWA := compileAll_world' (cfg := cfg) (inp := inp) hsw hinl hast hcfg hinp hG hL hplain
  have a := (R_rule_all hWA hfindA (hrho ▸ hev) hposA hple hlen hm hrunA).verdict
  have b := ((hall sN hposN).2 oN sN' hrunN).verdict
  exact ⟨(a.agree b).1, b.ne_panic, (a.agree b).2⟩

/-- **C07 for the generator itself, `-inline -noast -switch`**: what `C07_switch_generated_parser`
    says — verdict and end of the SOURCE grammar `G`, trace and `text` of `reachTrace` over the
    attempted-token list of the derivation in the rewritten grammar `G'` (not expanded: `-inline`
    keeps the events, `Eval_expandG_rev`). -/
theorem C07_inline_switch_generated_parser (G G' : Grammar) (o : Opts) (cfg : Cfg) (inp : List Sym)
    (hwf : WFB G = true) (hsafe : inlineNoastSwitchSafe G G' = true)
    (hinl : o.inline = true) (hast : o.ast = false) (hcfg : cfg.ast = false)
    (hinp : ∀ c ∈ inp, c ≠ END)
    {n cr} (hfind : (compileAll o G').find n = some cr) :
    ∃ res evs evs', Eval G cfg.rho inp (.name n) 0 res evs ∧ Eval G' cfg.rho inp (.name n) 0 res evs' ∧
      (∃ out s', Exec (compileAll o G') cfg inp cr 0 St.init Frame.empty (out, s')) ∧
      ∀ out s', Exec (compileAll o G') cfg inp cr 0 St.init Frame.empty (out, s') →
        (out = .ret true ↔ ∃ p' f, res = .ok p' f) ∧ (∀ p' f, res = .ok p' f → s'.pos = p') ∧
        (out = .ret false ↔ res = .fail) ∧ out ≠ .panic ∧
        s'.trace = (reachTrace (actionCodeOf G') inp evs' []).1 ∧
        s'.text = (reachTrace (actionCodeOf G') inp evs' []).2 := by
  obtain ⟨res, evs, evs', hev, hevX, hall⟩ := implements_noast
    (inline_noast_switch_world (Kall G') G G' o cfg inp hsafe hinl hast hcfg hinp)
    (inline_noast_switch_bridge hwf hsafe o) hfind (Nat.zero_le _)
  obtain ⟨hex, hall⟩ := hall St.init rfl
  exact ⟨res, evs, evs', hev, Eval_expandG_rev hevX, hex, fun out s' hrun => (hall out s' hrun).fresh⟩

/-- `in` is the special case `G' = G` of `isn` whenever the identity rewrite is validated. -/
theorem inlineNoastSwitchSafe_self {G : Grammar} (hsw : swOK G G = true)
    (h : inlineNoastSafe G = true) : inlineNoastSwitchSafe G G = true := by
  simp only [inlineNoastSwitchSafe, inlineNoastSwitchSafeK, Bool.and_eq_true]
  exact ⟨hsw, h⟩

/-! ### Non-vacuity and TESTS, option set `in` (`-inline -noast`)

  Grammar (after `link`):

      S       <- (A Action0 'b' / 'a' B / B) !.
      A       <- <'a'>
      B       <- 'c'
      Action0 <- { A0 }

  `A` and `Action0` have exactly one reference: `-inline` compiles the capture and the action's
  code in place, inside the first alternative of `S`; `B` has two references and keeps its function;
  `S` is emitted with label 0 and keeps its function.  On "ac" the first alternative completes the
  capture and reaches the action (both compiled in place), then fails at 'b' and is backtracked
  over: the action still ran, with the text "a". -/
namespace C07InlineExample

def G : Grammar := ⟨[
  ⟨"S", 0, .ipush (.seq [
      .alt [.seq [.name "A", .name "Action0", .chr 98], .seq [.chr 97, .name "B"], .name "B"],
      .peekNot .dot]) "S"⟩,
  ⟨"A", 1, .ipush (.push (.chr 97) "PegText") "A"⟩,
  ⟨"B", 2, .ipush (.chr 99) "B"⟩,
  ⟨"Action0", 3, .ipush (.act "A0") "Action0"⟩]⟩

def ρ : String → Nat → Bool := fun _ _ => true
def inOpts : Opts := { inline := true, switch := false, ast := false }
def cfgN : Cfg := ⟨false, true, ρ⟩

/-- The hypotheses of `C07_inline_generated_parser(_total)` are satisfiable
    (and `S` gets a function). -/
example : WFB G = true ∧ inlineNoastSafe G = true ∧ ((compileAll inOpts G).find "S").isSome = true := by
  decide +kernel

/-- … so are those of `C07_inline_same_language_as_default` and `C07_inline_same_trace_as_noast`
    about the default / plain `-noast` parser. -/
example : GrammarOK G = true ∧ LinkedOK G = true ∧ GrammarOKN (Kall G) G = true ∧ G.plain ∧
    ((compileAll {} G).find "S").isSome = true ∧ ((compileAll { ast := false } G).find "S").isSome = true :=
  ⟨by decide +kernel, by decide +kernel, by decide +kernel, Grammar.plain_of_all (by decide +kernel),
    by decide +kernel, by decide +kernel⟩

/-- Which rules keep a function: `S` (label 0) and `B` (two references); `A` and `Action0` are
    compiled in place.  Without `-inline` all four have one. -/
example : (compileAll inOpts G).map (fun r => (r.name, r.code.isSome)) =
    [("S", true), ("A", false), ("B", true), ("Action0", false)] := by decide +kernel
example : (compileAll { ast := false } G).map (fun r => (r.name, r.code.isSome)) =
    [("S", true), ("A", true), ("B", true), ("Action0", true)] := by decide +kernel

/-- The body compiled for `S`: the capture and the action sit in place. -/
example : (expandG inOpts G).body "S" = some (.ipush (.seq [
    .alt [.seq [.inl "A" (.ipush (.push (.chr 97) "PegText") "A"),
                .inl "Action0" (.ipush (.act "A0") "Action0"), .chr 98],
          .seq [.chr 97, .name "B"], .name "B"],
    .peekNot .dot]) "S") := by rfl

/-- The emitted function of `S` contains the capture (`cap`), the action's code as a statement and
    the (useless under `-noast`) `add "A"` of the inlined rule; it calls `B` only; no memo. -/
example : ((compileAll inOpts G).find "S").map (fun c =>
      (c.any (fun i => match i with | .cap _ => true | _ => false),
       c.contains (.stmt "A0"),
       c.any (fun i => match i with | .add "A" _ => true | _ => false),
       c.any (fun i => match i with | .callIf "B" _ => true | _ => false),
       c.any (fun i => match i with | .callIf "A" _ | .call "A" | .callIf "Action0" _ | .call "Action0" => true
                                     | _ => false),
       c.any (fun i => match i with | .memoCheck _ => true | _ => false))) =
    some (true, true, true, true, false, false) := by decide +kernel

/-- The spec on "ac": success at 2; the capture and the action of the FAILED first alternative are
    among the events of the derivation in the ORIGINAL grammar … -/
def evs : List Token :=
  [⟨"PegText", 0, 1⟩, ⟨"A", 0, 1⟩, ⟨"Action0", 1, 1⟩, ⟨"B", 1, 2⟩, ⟨"S", 0, 2⟩]

example : (evalF G ρ [97, 99] 30 (.name "S") 0).map
    (fun x => (match x.1 with | .ok p _ => some p | .fail => none, x.2)) = some (some 2, evs) := by decide +kernel
/-- … and the expanded grammar has literally the same attempted-token list (`Eval_expandG_iff`). -/
example : (evalF (expandG inOpts G) ρ [97, 99] 30 (.name "S") 0).map
    (fun x => (match x.1 with | .ok p _ => some p | .fail => none, x.2)) = some (some 2, evs) := by decide +kernel
example : ∃ f, Eval G ρ [97, 99] (.name "S") 0 (.ok 2 f) evs := ⟨_, evalF_sound 30 _ _ _ _ (by rfl)⟩
example : reachTrace (actionCodeOf G) [97, 99] evs [] = ([("A0", [97])], [97]) := by decide +kernel

/-- The emitted `-inline -noast` program on the executable machine: returns true at position 2 with
    the trace and `text` of the spec and an untouched token buffer. -/
example : (((compileAll inOpts G).find "S").bind
      (fun c => execF (compileAll inOpts G) cfgN [97, 99] 200 c 0 St.init Frame.empty)).map
      (fun r => (r.1, r.2.pos, r.2.trace, r.2.text, r.2.tree)) =
    some (.ret true, 2, [("A0", [97])], [97], []) := by rfl

/-- TEST harness: the reference interpreter of the ORIGINAL grammar `g` against the code emitted
    with the options `o` (`-inline -noast`) for the (possibly rewritten) grammar `g'`, run by the
    machine model from a fresh parser.  `full = true` additionally compares trace, `text` and
    `maxToken` with `reachTrace` over the events of `g` (what `C07_inline_generated_parser` states for
    `g' = g`); verdict and end position are always compared, token buffer untouched. -/
def agreeWith (o : Opts) (full : Bool) (g g' : Grammar) (inp : List Sym) : Bool :=
  let P := compileAll o g'
  match P.find "S" with
  | none => false
  | some cr =>
    match evalF g ρ inp 60 (.name "S") 0, execF P cfgN inp 600 cr 0 St.init Frame.empty with
    | some (res, evs), some (out, s') =>
      (match res, out with
        | .ok p' _, .ret true => s'.pos == p'
        | .fail, .ret false => s'.pos == 0
        | _, _ => false) &&
      (!full ||
        (s'.trace == (reachTrace (actionCodeOf g) inp evs []).1 &&
         s'.text == (reachTrace (actionCodeOf g) inp evs []).2 &&
         s'.maxTok == (noCap evs).foldl updTok zeroTok)) && s'.tree == []
    | _, _ => false

def inAgree (g : Grammar) (inp : List Sym) : Bool := agreeWith inOpts true g g inp

/-- TESTS (not theorems about all inputs), labelled `in`: `execF` on the `-inline -noast` code and
    `evalF` on the original grammar agree on accepted and rejected inputs. -/
example : inAgree G [97, 98] = true := by decide +kernel        -- in: "ab"  accepted, inlined capture + action
example : inAgree G [97, 99] = true := by decide +kernel        -- in: "ac"  accepted by alt 2 after the action ran
example : inAgree G [99] = true := by decide +kernel            -- in: "c"   accepted by alt 3 (call of B)
example : inAgree G [97] = true := by decide +kernel            -- in: "a"   rejected, action ran
example : inAgree G [98] = true := by decide +kernel            -- in: "b"   rejected, no action
example : inAgree G [] = true := by decide +kernel              -- in: ""    rejected
example : inAgree G [97, 98, 98] = true := by decide +kernel    -- in: "abb" rejected by `!.`
example : inAgree G [97, 99, 99] = true := by decide +kernel    -- in: "acc" rejected by `!.`

/-- TEST, labelled `in`: the plain `-noast` parser leaves the same trace (what
    `C07_inline_same_trace_as_noast` states). -/
example : [[97, 98], [97, 99], [99], [97], [98], [], [97, 98, 98]].all (fun i =>
    agreeWith { ast := false } true G G i && agreeWith inOpts true G G i) = true := by decide +kernel

/-- The side condition is not vacuous.  (1) A capture that is not named "PegText" inside a rule
    compiled in place is rejected (the expanded body is what is checked), while the AST-mode
    `-inline` condition accepts the grammar; (2) a once-referenced rule that refers to a stub is
    rejected although it gets no function itself: it is checked where it is compiled. -/
def Gbad1 : Grammar := ⟨[
  ⟨"S", 0, .ipush (.seq [.name "A", .chr 98]) "S"⟩,
  ⟨"A", 1, .ipush (.push (.chr 97) "Other") "A"⟩]⟩
def Gbad2 : Grammar := ⟨[
  ⟨"S", 0, .ipush (.seq [.name "A", .chr 98]) "S"⟩,
  ⟨"A", 1, .ipush (.seq [.name "U", .name "U"]) "A"⟩,
  ⟨"U", 2, .nil⟩]⟩

example : (GrammarOKNIS (Kall Gbad1) Gbad1, GrammarOKIS Gbad1) = (false, true) := by decide +kernel
example : (GrammarOKNIS (Kall Gbad2) Gbad2, ((compileAll inOpts Gbad2).find "A").isSome) =
    (false, false) := by decide +kernel

end C07InlineExample

/-! ### Non-vacuity and TESTS, option set `isn` (`-inline -noast -switch`)

  Source grammar (after `link`):

      S       <- (A 'b' / B 'y' / 'd' / [g-k] 'z') !.
      A       <- 'a' <'x'> Action0
      B       <- [b-c]
      Action0 <- { A0 }

  and its `-switch` rewrite, as `optimise` produces it:

      S <- switch { case 'd': 'd'; case 'a': A 'b'; case 'b','c': B 'y'; default: [g-k] 'z' } !.

  `A`, `B`, `Action0` are referenced once, so `-inline` compiles their bodies in place, directly
  behind the `case`: inside the inlined body of `A` the test of `'a'` is elided (`parentDetect`, one
  key), inside the inlined body of `B` the test of `[b-c]` is kept (two keys).  On "axc" the case of
  'a' completes the capture and reaches the action (both in place), then fails at 'b': the action
  still ran, with the text "x". -/
namespace C07InlineSwitchExample
open C07InlineExample (ρ cfgN agreeWith)

def srcG : Grammar := ⟨[
  ⟨"S", 0, .ipush (.seq [
      .alt [.seq [.name "A", .chr 98], .seq [.name "B", .chr 121], .chr 100, .seq [.rng 103 107, .chr 122]],
      .peekNot .dot]) "S"⟩,
  ⟨"A", 1, .ipush (.seq [.chr 97, .push (.chr 120) "PegText", .name "Action0"]) "A"⟩,
  ⟨"B", 2, .ipush (.rng 98 99) "B"⟩,
  ⟨"Action0", 3, .ipush (.act "A0") "Action0"⟩]⟩

def swG : Grammar := ⟨[
  ⟨"S", 0, .ipush (.seq [
      .ualt [[(100, 100)], [(97, 97)], [(98, 99)], [(103, 107)]]
        [.chr 100, .seq [.name "A", .chr 98], .seq [.name "B", .chr 121], .seq [.rng 103 107, .chr 122]],
      .peekNot .dot]) "S"⟩,
  ⟨"A", 1, .ipush (.seq [.chr 97, .push (.chr 120) "PegText", .name "Action0"]) "A"⟩,
  ⟨"B", 2, .ipush (.rng 98 99) "B"⟩,
  ⟨"Action0", 3, .ipush (.act "A0") "Action0"⟩]⟩

def isnOpts : Opts := { inline := true, switch := true, ast := false }

/-- The hypotheses of `C07_inline_switch_verdict` / `C07_inline_switch_generated_parser` are
    satisfiable (and `S` gets a function) … -/
example : WFB srcG = true ∧ inlineNoastSwitchSafe srcG swG = true ∧
    ((compileAll isnOpts swG).find "S").isSome = true := by decide +kernel

/-- … so are those of `C07_inline_switch_same_language_as_default` about the source grammar. -/
example : GrammarOK srcG = true ∧ LinkedOK srcG = true ∧ srcG.plain ∧
    ((compileAll {} srcG).find "S").isSome = true :=
  ⟨by decide +kernel, by decide +kernel, Grammar.plain_of_all (by decide +kernel), by decide +kernel⟩

/-- `swG` is literally what the modelled optimiser makes of `srcG` … -/
example : (optimise srcG).toOption.map (fun G' =>
    swMatchL (fun _ => none) (G'.rules.map (·.body)) (swG.rules.map (·.body)) &&
    G'.rules.map (fun r => (r.name, r.id)) == swG.rules.map (fun r => (r.name, r.id))) = some true := by
  decide +kernel
-- … and the side condition evaluated directly on the optimiser's output (interpreter).
#guard (optimise srcG).toOption.map (inlineNoastSwitchSafe srcG) == some true

/-- Only `S` keeps a function. -/
example : (compileAll isnOpts swG).map (fun r => (r.name, r.code.isSome)) =
    [("S", true), ("A", false), ("B", false), ("Action0", false)] := by decide +kernel

/-- The elision really happens INSIDE the inlined body, in `-noast` code: no test of `'a'` is
    printed, the range test of the two-key case is kept, there is a `switchOn`, the capture (`cap`)
    and the action's code sit in place, no call is left and there is no memo. -/
example : ((compileAll isnOpts swG).find "S").map (fun c =>
      (c.any (fun i => match i with | .ifNeChr 97 _ => true | _ => false),
       c.any (fun i => match i with | .ifNotRng 98 99 _ => true | _ => false),
       c.any (fun i => match i with | .switchOn .. => true | _ => false),
       c.any (fun i => match i with | .cap _ => true | _ => false),
       c.contains (.stmt "A0"),
       c.any (fun i => match i with | .call _ | .callIf _ _ | .memoCheck _ => true | _ => false))) =
    some (false, true, true, true, true, false) := by decide +kernel

/-- The spec on "axc": both grammars fail; the derivation in `swG` has the capture and the action of
    the abandoned case among its events; the action ran with the text "x". -/
def evs' : List Token := [⟨"PegText", 1, 2⟩, ⟨"Action0", 2, 2⟩, ⟨"A", 0, 2⟩]

example : (evalF srcG ρ [97, 120, 99] 30 (.name "S") 0).map
    (fun x => (match x.1 with | .ok p _ => some p | .fail => none, x.2)) = some (none, evs') := by decide +kernel
example : (evalF swG ρ [97, 120, 99] 30 (.name "S") 0).map
    (fun x => (match x.1 with | .ok p _ => some p | .fail => none, x.2)) = some (none, evs') := by decide +kernel
example : Eval swG ρ [97, 120, 99] (.name "S") 0 .fail evs' := evalF_sound 30 _ _ _ _ (by rfl)
example : reachTrace (actionCodeOf swG) [97, 120, 99] evs' [] = ([("A0", [120])], [120]) := by decide +kernel

/-- The emitted `-inline -noast -switch` program on the executable machine: returns false at
    position 0 with the trace and `text` of the spec and an untouched token buffer. -/
example : (((compileAll isnOpts swG).find "S").bind
      (fun c => execF (compileAll isnOpts swG) cfgN [97, 120, 99] 300 c 0 St.init Frame.empty)).map
      (fun r => (r.1, r.2.pos, r.2.trace, r.2.text, r.2.tree)) =
    some (.ret false, 0, [("A0", [120])], [120], []) := by rfl

/-- `isn` harness: trace / `text` / `maxToken` against the events of the REWRITTEN grammar `g'`
    (`C07_inline_switch_generated_parser`, second half) … -/
def isnAgree (g' : Grammar) (inp : List Sym) : Bool := agreeWith isnOpts true g' g' inp
/-- … and verdict / end position against the SOURCE grammar (`C07_inline_switch_verdict`). -/
def isnVerdict (g g' : Grammar) (inp : List Sym) : Bool := agreeWith isnOpts false g g' inp

/-- TESTS (not theorems about all inputs), labelled `isn`. -/
example : isnAgree swG [97, 120, 98] = true := by decide +kernel    -- isn: "axb" accepted, inlined A, action ran
example : isnAgree swG [97, 120, 99] = true := by decide +kernel    -- isn: "axc" rejected after the action ran
example : isnAgree swG [97, 121] = true := by decide +kernel        -- isn: "ay"  rejected inside the inlined capture
example : isnAgree swG [97] = true := by decide +kernel             -- isn: "a"   rejected inside inlined A
example : isnAgree swG [98, 121] = true := by decide +kernel        -- isn: "by"  accepted, inlined B
example : isnAgree swG [99, 121] = true := by decide +kernel        -- isn: "cy"  accepted, inlined B
example : isnAgree swG [98, 120] = true := by decide +kernel        -- isn: "bx"  rejected after inlined B
example : isnAgree swG [100] = true := by decide +kernel            -- isn: "d"   accepted, case 'd'
example : isnAgree swG [104, 122] = true := by decide +kernel       -- isn: "hz"  accepted, default
example : isnAgree swG [101] = true := by decide +kernel            -- isn: "e"   rejected in the default
example : isnAgree swG [] = true := by decide +kernel               -- isn: ""    rejected (end symbol → default)
example : isnAgree swG [100, 100] = true := by decide +kernel       -- isn: "dd"  rejected by `!.`
example : [[97, 120, 98], [97, 120, 99], [97, 121], [97], [98, 121], [99, 121], [98, 120], [100], [104, 122],
    [101], [], [100, 100]].all (isnVerdict srcG swG) = true := by decide +kernel

/-- TEST, labelled `isn`: the same on the output of the MODELLED `-switch` rewrite. -/
example : (optimise srcG).toOption.map (fun g =>
    [[97, 120, 98], [97, 120, 99], [97, 121], [98, 121], [99, 121], [100], [104, 122], [101], [], [100, 100]].all
      (fun i => isnAgree g i && isnVerdict srcG g i)) = some true := by decide +kernel

/-- The side condition is not vacuous: if the key of the case does not imply the character the
    inlined body of `A` starts with, the elision is not justified — rejected, while the same grammar
    passes the `-noast -switch` check without `-inline` (`GrammarOKNS`, where `A` is a call) … -/
def swGbad : Grammar := ⟨[
  ⟨"S", 0, .ipush (.seq [
      .ualt [[(98, 98)], [(99, 99)]] [.seq [.name "A", .chr 98], .seq [.name "B", .chr 121], .chr 100],
      .peekNot .dot]) "S"⟩,
  ⟨"A", 1, .ipush (.seq [.chr 97, .push (.chr 120) "PegText", .name "Action0"]) "A"⟩,
  ⟨"B", 2, .ipush (.rng 98 99) "B"⟩,
  ⟨"Action0", 3, .ipush (.act "A0") "Action0"⟩]⟩

example : (GrammarOKNIS (Kall swGbad) swGbad, GrammarOKNS (Kall swGbad) swGbad) = (false, true) := by decide +kernel

/-- … and TEST: the rejected grammar is really wrong under `-inline -noast`: "bxb" is accepted by the
    emitted code (the test of `'a'` is elided inside the inlined body of `A`) although the semantics
    of `swGbad` rejects it. -/
example : (agreeWith isnOpts false swGbad swGbad [98, 120, 98],
    (evalF swGbad ρ [98, 120, 98] 30 (.name "S") 0).map (fun x => match x.1 with | .ok _ _ => true | .fail => false),
    (((compileAll isnOpts swGbad).find "S").bind
      (fun c => execF (compileAll isnOpts swGbad) cfgN [98, 120, 98] 300 c 0 St.init Frame.empty)).map (·.1)) =
    (false, some false, some (.ret true)) := by decide +kernel

end C07InlineSwitchExample

-- The bootstrap grammar (`peg.peg` after `link`, `SwitchTests.pegG`), interpreter: both side
-- conditions hold — for `pegG` itself (`in`) and for the optimiser's output (`isn`).
#guard inlineNoastSafe SwitchTests.pegG
#guard (optimise SwitchTests.pegG).toOption.map (inlineNoastSwitchSafe SwitchTests.pegG) == some true

end PegVerif

#print axioms PegVerif.compileAll_worldNS_inline
#print axioms PegVerif.compileAll_worldNS_inline'
#print axioms PegVerif.C07_inline_same_language_as_default
#print axioms PegVerif.C07_inline_same_trace_as_noast
#print axioms PegVerif.C07_inline_generated_parser
#print axioms PegVerif.C07_inline_generated_parser_total
#print axioms PegVerif.inline_noast_switch_world
#print axioms PegVerif.C07_inline_switch_verdict
#print axioms PegVerif.C07_inline_switch_same_language_as_default
#print axioms PegVerif.C07_inline_switch_generated_parser
