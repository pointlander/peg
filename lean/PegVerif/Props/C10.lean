import PegVerif.Proofs.FrontLemmas
import PegVerif.Proofs.FrontHex
import PegVerif.Proofs.FrontFold
/-
  C10 — the front end (reader of `.peg` texts).

  Every theorem below is about `frontModel` / `frontChar`, i.e. about
      PEG semantics (`evalF`) of `pegFrontRules`  +  runtime `Execute()`  +  builder model,
  where `pegFrontRules` is REGENERATED from /repo/peg.peg by bin/genpeggrammar.py before every
  build, so the statements are re-checked against the current grammar of the .peg language on
  every run; T-front (bin/tfront.py) ties `frontModel` to the real front end text by text.

  The evaluations — the escape table (Props/C10Escapes.lean) and one representative text per
  documented construct — are TESTS with a kernel certificate (`kernel_rfl`, on the numbered form of
  the linked grammar: Proofs/FrontNumbered.lean), not universally quantified round-trip theorems.
  Universal are the theorems about the builder (all stacks, all digit strings, every rune), about
  `DoubleChar` on every raw character and the hex escape on every digit string, and about the
  model front end (soundness w.r.t. the relational PEG semantics, fuel).

  NOT proved: `frontModel (render a sp) = denote a` for all abstract grammars `a` and spellings
  `sp` (the universally quantified round trip), and that every derivation of `Grammar` yields a
  balanced builder call sequence.  Both are only tested (T-front).
-/
namespace PegVerif

/-! ## vocabulary for expected trees -/

def chrN (c : Char) : Node := .leaf .character [c.toNat]
def cpN (c : Sym) : Node := .leaf .character [c]
def seqN (ks : List Node) : Node := .mk .sequence [] 0 ks
def altN (ks : List Node) : Node := .mk .alternate [] 0 ks
def rangeN (lo hi : Char) : Node := .mk .range [] 0 [chrN lo, chrN hi]
def dotN : Node := .leaf .dot [46]
def nilN : Node := .leaf .nil (symsOf "<nil>")
def nameN (s : String) : Node := .leaf .name (symsOf s)
def peekForN (k : Node) : Node := .mk .peekFor [] 0 [k]
def peekNotN (k : Node) : Node := .mk .peekNot [] 0 [k]
def queryN (k : Node) : Node := .mk .query [] 0 [k]
def starN (k : Node) : Node := .mk .star [] 0 [k]
def plusN (k : Node) : Node := .mk .plus [] 0 [k]
def pushN (k : Node) : Node := .mk .push [] 0 [k]
def actionN (s : String) : Node := .leaf .action (symsOf s)
def predicateN (s : String) : Node := .leaf .predicate (symsOf s)
def stateChangeN (s : String) : Node := .leaf .stateChange (symsOf s)
def ruleN (name : String) (id : Nat) (body : Node) : Node := .mk .rule (symsOf name) id [body]

/-- The bodies of the rules in a front-end result (`none`: not accepted). -/
def bodies : FrontResult → Option (List Node)
  | .ok top => some ((top.filter (fun n => n.t == .rule)).flatMap (·.kids))
  | _ => none

/-- Rule bodies the front end builds for a text (fuel 4000 is ample for the short texts below;
    by `frontCore_fuel_irrelevant` the answer does not depend on it). -/
def front (text : String) : Option (List Node) := bodies (frontModel (symsOf text) 4000)

/-- The whole result (header, package, imports, Peg, rules). -/
def frontAll (text : String) : FrontResult := frontModel (symsOf text) 4000

/-- The form in which the kernel evaluates a test text: the numbered pipeline, on the characters as
    a list.  A string literal IS `String.ofList` of its characters, and that is how a statement
    about a literal matches these lemmas; asked for `String.toList` of a literal the kernel would
    decode UTF-8. -/
theorem frontAll_of (cs : List Char) (r : FrontResult)
    (h : resultOf (pipeI pegBodies pegKinds rEntry (cs.map Char.toNat) 4000) = some r) :
    frontAll (String.ofList cs) = r := by
  rw [frontAll, frontModel_eq, symsOf_ofList, ← nm_entry]
  exact frontCore_eq pegNumbered h

theorem front_of (cs : List Char) (x : Option (List Node))
    (h : (resultOf (pipeI pegBodies pegKinds rEntry (cs.map Char.toNat) 4000)).map bodies = some x) :
    front (String.ofList cs) = x := by
  obtain ⟨r, hr, rfl⟩ := Option.map_eq_some_iff.mp h
  exact congrArg bodies (frontAll_of cs r hr)

def isSyntaxError : FrontResult → Bool
  | .syntaxError => true
  | _ => false

/-! ## one representative text per documented construct -/

/-- Single-quoted literals are case-sensitive: one Character per rune, exactly as written. -/
theorem C10_literal_case :
    front "package p\ntype T Peg {}\nr <- 'aB' 'c'\n" =
      some [seqN [chrN 'a', chrN 'B', chrN 'c']] :=
  front_of _ _ (by kernel_rfl)

/-- Double-quoted literals are case-insensitive: EVERY character that has two cases becomes the
    choice lower/upper — a raw ASCII letter, a letter outside ASCII (`é`, `Ω`), a letter written as
    an escape (`\0x61`, `\102`); a title case letter (`ǅ`) keeps itself as a third form; a character
    without case (digit, punctuation, `汉`, `ß`, the escape `\n`) stays the plain character. -/
theorem C10_dquote_ci :
    front "package p\ntype T Peg {}\nr <- \"aB1\"\ns <- \"é\\0x61\\102Ω\"\nt <- \"ǅ-汉ß\\n\"\n" =
      some [seqN [altN [chrN 'a', chrN 'A'], altN [chrN 'b', chrN 'B'], chrN '1'],
            seqN [altN [chrN 'é', chrN 'É'], altN [chrN 'a', chrN 'A'], altN [chrN 'b', chrN 'B'],
                  altN [chrN 'ω', chrN 'Ω']],
            seqN [altN [chrN 'ǆ', chrN 'Ǆ', chrN 'ǅ'], chrN '-', chrN '汉', chrN 'ß', chrN '\n']] :=
  front_of _ _ (by kernel_rfl)

/-- Classes: `[a-c]` is a range, `[ab]` an alternation of characters, mixed classes alternate
    their items in order; escapes work as items and as range bounds. -/
theorem C10_class :
    front "package p\ntype T Peg {}\nr <- [a-c]\ns <- [ab]\nt <- [x0-9\\n\\-\\]]\nu <- [\\101-\\0x43]\n" =
      some [rangeN 'a' 'c', altN [chrN 'a', chrN 'b'],
            altN [chrN 'x', rangeN '0' '9', chrN '\n', chrN '-', chrN ']'], rangeN 'A' 'C'] :=
  front_of _ _ (by kernel_rfl)

/-- `[^…]` negates: not-followed-by the class, then any character. -/
theorem C10_negclass :
    front "package p\ntype T Peg {}\nr <- [^ab]\ns <- [^a-z]\n" =
      some [seqN [peekNotN (altN [chrN 'a', chrN 'b']), dotN], seqN [peekNotN (rangeN 'a' 'z'), dotN]] :=
  front_of _ _ (by kernel_rfl)

/-- `[[…]]` classes are case-insensitive (letters and ranges in both cases), `[[^…]]` negates; the
    letters may be outside ASCII or written as escapes, as items (`[[é\141]]`) and as range bounds
    (`[[à-þ]]`, `[[\0x61-\172]]`). -/
theorem C10_ci_class :
    front "package p\ntype T Peg {}\nr <- [[a-c]]\ns <- [[x1]]\nt <- [[^A-Z]]\nu <- [[é\\141]]\nv <- [[à-þ]]\nw <- [[\\0x61-\\172]]\n" =
      some [altN [rangeN 'a' 'c', rangeN 'A' 'C'], altN [chrN 'x', chrN 'X', chrN '1'],
            seqN [peekNotN (altN [rangeN 'a' 'z', rangeN 'A' 'Z']), dotN],
            altN [chrN 'é', chrN 'É', altN [chrN 'a', chrN 'A']],
            altN [rangeN 'à' 'þ', rangeN 'À' 'Þ'], altN [rangeN 'a' 'z', rangeN 'A' 'Z']] :=
  front_of _ _ (by kernel_rfl)

/-- Both arrow spellings (`<-` and U+2190) give the same rule. -/
theorem C10_arrows :
    front "package p\ntype T Peg {}\nr <- a\n" = some [nameN "a"] ∧
    front "package p\ntype T Peg {}\nr \u2190 a\n" = some [nameN "a"] ∧
    front "package p\ntype T Peg {}\nr<-a s\u2190b\n" = some [nameN "a", nameN "b"] :=
  ⟨front_of _ _ (by kernel_rfl), front_of _ _ (by kernel_rfl), front_of _ _ (by kernel_rfl)⟩

/-- `#` and `//` comments are equivalent, between tokens, on their own line and with any line end;
    comments and blank lines before `package` are kept as Comment / Space nodes. -/
theorem C10_comments :
    front "package p # c\ntype T // c\r\n Peg {}\nr <- a # x\r b // y\n# z\n" = some [seqN [nameN "a", nameN "b"]] ∧
    front "package p // c\ntype T # c\r\n Peg {}\nr <- a // x\r b # y\n// z\n" = some [seqN [nameN "a", nameN "b"]] ∧
    frontAll "# one\n//two\r\n\n package p\ntype T Peg {}\nr <- a\n" =
      .ok [.leaf .comment (symsOf " one"), .leaf .comment (symsOf "two"), .leaf .space (symsOf "\n "),
           .leaf .package (symsOf "p"), .mk .peg (symsOf "T") 0 [.leaf .state []],
           ruleN "r" 0 (nameN "a")] :=
  ⟨front_of _ _ (by kernel_rfl), front_of _ _ (by kernel_rfl), frontAll_of _ _ (by kernel_rfl)⟩

/-- Imports keep path and alias (an alias is the node `=alias` in front of its path), single and
    grouped; the parser state keeps its text including nested braces. -/
theorem C10_imports :
    frontAll "package p\nimport \"fmt\"\nimport t \"a/b-c.d\"\nimport (\n\"os\"\n x \"y\"\n)\ntype T Peg { m map[int]struct{} }\nr <- a\n" =
      .ok [.leaf .package (symsOf "p"), .leaf .import_ (symsOf "fmt"), .leaf .import_ (symsOf "=t"),
           .leaf .import_ (symsOf "a/b-c.d"), .leaf .import_ (symsOf "os"), .leaf .import_ (symsOf "=x"),
           .leaf .import_ (symsOf "y"),
           .mk .peg (symsOf "T") 0 [.leaf .state (symsOf " m map[int]struct{} ")],
           ruleN "r" 0 (nameN "a")] :=
  frontAll_of _ _ (by kernel_rfl)

/-- Actions keep their text; nested braces are balanced; `&{}` is a predicate, `!{}` a state
    change, `<…>` a capture. -/
theorem C10_actions :
    front "package p\ntype T Peg {}\nr <- <a> { if x { y() } } &{ ok() } !{ n++ }\n" =
      some [seqN [pushN (nameN "a"), actionN " if x { y() } ", predicateN " ok() ",
                  stateChangeN " n++ "]] :=
  front_of _ _ (by kernel_rfl)

/-- Precedence: alternation < sequence < prefix < suffix; parentheses group; a trailing `/` adds
    the empty alternative; an empty body is the empty expression. -/
theorem C10_precedence :
    front "package p\ntype T Peg {}\nr <- a b / !c* d+ / &(e / f)? .\ns <- a /\nt <-\nu <- (a b) c (d e)\n" =
      some [altN [seqN [nameN "a", nameN "b"],
                  seqN [peekNotN (starN (nameN "c")), plusN (nameN "d")],
                  seqN [peekForN (queryN (altN [nameN "e", nameN "f"])), dotN]],
            altN [nameN "a", nilN], nilN,
            seqN [nameN "a", nameN "b", nameN "c", seqN [nameN "d", nameN "e"]]] :=
  front_of _ _ (by kernel_rfl)

/-- A hex escape without a code point (surrogate, above U+10FFFF, beyond int32 / uint64) anywhere a
    character can stand — literal, class item, range bound, case-insensitive forms — makes the front
    end report the text: `Compile` returns one error per such escape, in text order, naming it as
    written (`\0X…` is named `\0x…`); the neighbouring valid escapes (`\0xd7ff`, `\0x10FFFF`,
    `\377`) are not reported. -/
theorem C10_hex_no_codepoint_reported :
    frontAll "package p\ntype T Peg {}\nr <- '\\0xd800'\n" = .invalid [hexErrMsg (symsOf "d800")] ∧
    frontAll "package p\ntype T Peg {}\nr <- 'a\\0x110000' \"\\0XDFFF\" [\\0xd7ff-\\0xffffffff] [[x\\0x0080000000]] '\\0x10FFFF\\377'\ns <- [^\\0xffffffffffffffffffff]\n" =
      .invalid [hexErrMsg (symsOf "110000"), hexErrMsg (symsOf "DFFF"), hexErrMsg (symsOf "ffffffff"),
                hexErrMsg (symsOf "0080000000"), hexErrMsg (symsOf "ffffffffffffffffffff")] ∧
    front "package p\ntype T Peg {}\nr <- '\\0xd7ff' [\\0xe000-\\0x10FFFF] '\\377'\n" =
      some [seqN [cpN 0xd7ff, .mk .range [] 0 [cpN 0xe000, cpN 0x10ffff], cpN 255]] :=
  ⟨frontAll_of _ _ (by kernel_rfl), frontAll_of _ _ (by kernel_rfl), front_of _ _ (by kernel_rfl)⟩

theorem reject_of (cs : List Char)
    (h : pipeI pegBodies pegKinds rEntry (cs.map Char.toNat) 4000 = some none) :
    isSyntaxError (frontAll (String.ofList cs)) = true := by
  rw [frontAll_of cs .syntaxError (by rw [h]; rfl)]
  rfl

/-- Text that is not a grammar is a syntax error: representative malformed texts, including the
    empty literal / class shapes `''`, `""`, `[]`, `[[]]`. -/
theorem C10_rejects :
    ([ "", "package p\n", "package p\ntype T Peg {}\n", "package p\ntype T Peg {}\nr <- ''\n",
       "package p\ntype T Peg {}\nr <- \"\"\n", "package p\ntype T Peg {}\nr <- []\n",
       "package p\ntype T Peg {}\nr <- [[]]\n", "package p\ntype T Peg {}\nr <- (a\n",
       "package p\ntype T Peg {}\nr <- 'a\n", "package p\ntype T Peg {}\nr a\n",
       "package p\ntype T Peg {}\nr <- a**\n", "package p\ntype T Peg {}\nr <- {\n",
       "package p\ntype T Peg {}\nr <- '\\q'\n", "package p\ntype T Peg {\nr <- a\n" ].all
      (fun t => isSyntaxError (frontAll t))) = true := by
  simp only [List.all_cons, List.all_nil, Bool.and_true, Bool.and_eq_true]
  repeat' apply And.intro
  all_goals exact reject_of _ (by kernel_rfl)

/-! ## precedence as a property of the regenerated rules -/

mutual
  /-- Rule names an expression refers to, in order. -/
  def Expr.refs : Expr → List String
    | .name n => [n]
    | .inl _ e => e.refs
    | .seq es => Expr.refsL es
    | .alt es => Expr.refsL es
    | .ualt _ es => Expr.refsL es
    | .peekFor e => e.refs
    | .peekNot e => e.refs
    | .query e => e.refs
    | .star e => e.refs
    | .plus e => e.refs
    | .push e _ => e.refs
    | .ipush e _ => e.refs
    | _ => []
  def Expr.refsL : List Expr → List String
    | [] => []
    | e :: es => e.refs ++ Expr.refsL es
end

def refsOf (rule : String) : Option (List String) :=
  ((Grammar.mk pegFrontRules).body rule).map Expr.refs

/-- The precedence chain of the grammar of the .peg language, read off the regenerated rules:
    `Expression` is built from `Sequence`s separated by `Slash`; `Sequence` from `Prefix`es;
    `Prefix` is `And`/`Not` applied to an `Action` or ONE `Suffix`; `Suffix` is ONE `Primary` with
    at most one of `Question`/`Star`/`Plus`; `Primary` re-enters `Expression` only between
    `Open … Close` and `Begin … End`.  Hence alternation < sequence < prefix < suffix < primary. -/
theorem C10_precedence_chain :
    refsOf "Expression" = some ["Sequence", "Slash", "Sequence", "Slash"] ∧
    refsOf "Sequence" = some ["Prefix", "Prefix"] ∧
    refsOf "Prefix" = some ["And", "Action", "Not", "Action", "And", "Suffix", "Not", "Suffix", "Suffix"] ∧
    refsOf "Suffix" = some ["Primary", "Question", "Star", "Plus"] ∧
    refsOf "Primary" = some ["Identifier", "LeftArrow", "Open", "Expression", "Close", "Literal",
      "Class", "Dot", "Action", "Begin", "Expression", "End"] := by
  refine ⟨?_, ?_, ?_, ?_, ?_⟩ <;> kernel_rfl

/-- The exact bodies of the two list-building rules (which builder call follows which operand). -/
theorem C10_list_rules :
    (Grammar.mk pegFrontRules).body "Expression" = some (.alt [.seq [.name "Sequence",
        .star (.seq [.name "Slash", .name "Sequence", .act " p.AddAlternate() "]),
        .query (.seq [.name "Slash", .act " p.AddNil(); p.AddAlternate() "])], .act " p.AddNil() "]) ∧
    (Grammar.mk pegFrontRules).body "Sequence" = some (.seq [.name "Prefix",
        .star (.seq [.name "Prefix", .act " p.AddSequence() "])]) := by
  refine ⟨?_, ?_⟩ <;> kernel_rfl

/-! ## universal theorems (proved in Proofs/Front*.lean) -/

/-- What `AddAlternate` / `AddSequence` / `AddRange` build, for ANY stack with two entries, `a` on
    top of `b`: `a` is appended to `b` if `b` already is a list of that type (flattening on the LEFT
    only), else the new list `[b, a]` is made. -/
theorem C10_builder_addList_flatten (ty : NType) (a b : Node) (rest : List Node) (n : Nat)
    (es : List (List Sym)) :
    addList ty ⟨a :: b :: rest, n, es⟩ =
      .ok ⟨(if b.t = ty then b.pushBack a else Node.mk ty [] 0 [b, a]) :: rest, n, es⟩ :=
  builder_addList_flatten ty a b rest n es

/-- `PopFront` never hits the empty deque on a balanced call sequence: the sequence COMPLETES (so it
    neither panics nor leaves the modelled fragment — every builder call is modelled on every string,
    `strings.ToLower` / `ToUpper` included); and an unbalanced one PANICS with "tree is empty". -/
theorem C10_builder_never_panics_on_balanced (ops : List Op) (st : BState) :
    (balanced ops st.items.length = true → ∃ st', applyOps ops st = .ok st') ∧
    (balanced ops st.items.length = false → applyOps ops st = .panic "tree is empty") :=
  ⟨builder_balanced_completes ops st, builder_unbalanced_panics ops st⟩

/-- `AddCaseFold()` for ANY node `c` on top of ANY deque: `c` stays when `strings.ToLower` and
    `strings.ToUpper` of its string agree; otherwise it becomes the choice of the two strings, followed
    by `c` itself when its string is neither of them. -/
theorem C10_builder_caseFold (c : Node) (rest : List Node) (n : Nat) (es : List (List Sym)) :
    (Op.addCaseFold).apply ⟨c :: rest, n, es⟩ =
      .ok ⟨(if toLowerS c.s = toUpperS c.s then c
            else if c.s ≠ toLowerS c.s ∧ c.s ≠ toUpperS c.s then
              Node.mk .alternate [] 0
                [.leaf .character (toLowerS c.s), .leaf .character (toUpperS c.s), c]
            else Node.mk .alternate [] 0
                [.leaf .character (toLowerS c.s), .leaf .character (toUpperS c.s)]) :: rest, n, es⟩ :=
  builder_addCaseFold c rest n es

/-- … in particular after `Char` has pushed ONE character `r`, for EVERY rune `r` (raw or the value of
    an escape): `foldNode r` = the plain character when `r` has no case (`unicode.ToLower r =
    unicode.ToUpper r`), else `lower / upper`, and `lower / upper / r` for a title case `r`. -/
theorem C10_caseFold_char (r : Sym) (rest : List Node) (n : Nat) (es : List (List Sym)) :
    (Op.addCaseFold).apply ⟨cpN r :: rest, n, es⟩ = .ok ⟨foldNode r :: rest, n, es⟩ :=
  builder_addCaseFold_char r rest n es

/-- ASCII: a letter becomes lower/upper — the tree `AddDoubleCharacter` builds for it — and every
    other ASCII character (digit, punctuation, control) stays ONE plain character. -/
theorem C10_caseFold_ascii (c : Sym) (h : c ≤ 127) :
    foldNode c =
      if 97 ≤ c ∧ c ≤ 122 then altN [cpN c, cpN (c - 32)]
      else if 65 ≤ c ∧ c ≤ 90 then altN [cpN (c + 32), cpN c]
      else cpN c :=
  foldNode_ascii c h

/-- Case-insensitivity for EVERY raw character, at the level of the regenerated grammar (relational
    PEG semantics, so no fuel): rule `DoubleChar` — one character of a double-quoted literal or of a
    `[[…]]` class — consumes any character `c` other than the backslash (whatever follows), and
    `Execute()` on the resulting tokens, with the action code of peg.peg run against the builder
    model, ends with exactly the node `foldNode c` and no error.  By `Eval_det` this derivation is
    the only one.  (Characters written as escapes: `C10_caseFold_escapes`.) -/
theorem C10_caseFold_raw_all (c : Sym) (hc : c ≠ 92) (tl : List Sym) :
    ∃ forest evs,
      Eval pegLinked.G (fun _ _ => false) (c :: tl) (.name "DoubleChar") 0 (.ok 1 forest) evs ∧
      (execute pegActs (c :: tl) (postorderL forest)).map
          (fun e => runEvents pegTable e BState.init) = some (.ok ⟨[foldNode c], 0, []⟩) := by
  obtain ⟨evs, he⟩ := doubleChar_raw_eval c hc tl
  exact ⟨_, evs, he, doubleChar_raw_actions c tl⟩

/-- The case table the model searches (`unicode.CaseRanges`, regenerated from the Go library) is
    sorted with disjoint non-empty ranges, so at most one range holds a rune and the model's search
    finds exactly the range any search of the table (Go's is a binary search) returns. -/
theorem C10_case_table (r : Nat) (cr : CaseRange) (hc : cr ∈ goCaseRanges) (hh : cr.holds r = true) :
    caseRangesSorted goCaseRanges = true ∧ lookupCaseRange r goCaseRanges = some cr :=
  ⟨goCaseRanges_sorted, lookupCaseRange_unique r goCaseRanges goCaseRanges_sorted cr hc hh⟩

/-- `AddHexaCharacter` / `AddOctalCharacter` for ALL non-empty digit strings: a hex string whose
    value is a code point pushes that character and records nothing; any other hex string (surrogate,
    above U+10FFFF, however large) records the error naming the escape (and pushes a U+FFFD
    placeholder that keeps the deque balanced; the tree is never compiled, `BState.finish`). -/
theorem C10_escape_hex_spec (ds : List Sym) (v : Nat) (st : BState) (hne : ds ≠ [])
    (hv : digitsVal 16 ds 0 = some v) :
    (Op.addHexaCharacter ds).apply st =
      .ok (if isCodePoint v = true then st.pushFront (.leaf .character [v])
           else (st.addErr (hexErrMsg ds)).pushFront (.leaf .character [0xFFFD])) :=
  escape_hex_spec ds v st hne hv

/-- An octal escape of at most three digits (rule `Escape` captures no more) always denotes its
    value, which is at most 0o777 = 511 and so a code point: `AddOctalCharacter` pushes that
    character. -/
theorem C10_escape_octal_spec (ds : List Sym) (v : Nat) (st : BState) (hne : ds ≠ [])
    (hlen : ds.length ≤ 3) (hv : digitsVal 8 ds 0 = some v) :
    (Op.addOctalCharacter ds).apply st = .ok (st.pushFront (.leaf .character [v])) :=
  escape_octal_small ds v st hne hlen hv

/-- The hex escape for ALL digit strings, at the level of the regenerated grammar (relational PEG
    semantics, so no fuel): `\0x` / `\0X` followed by any non-empty string of hex digits is consumed
    entirely by rule `Escape`, and `Execute()` on the resulting tokens, with the action code of
    peg.peg run against the builder model, ends in a state that `Compile` accepts as exactly
    `Character value` when the value IS a Unicode code point, and that `Compile` refuses with
    exactly the error naming the escape when it is NOT (surrogates and values above U+10FFFF,
    however large).  By `Eval_det` this derivation is the only one. -/
theorem C10_escape_hex_all (x : Sym) (hx : x = 120 ∨ x = 88) (ds : List Sym) (hne : ds ≠ [])
    (hall : ∀ c ∈ ds, isHexSym c = true) :
    ∃ v forest evs, digitsVal 16 ds 0 = some v ∧
      Eval pegLinked.G (fun _ _ => false) (92 :: 48 :: x :: ds) (.name "Escape") 0
        (.ok (3 + ds.length) forest) evs ∧
      ∃ st, (execute pegActs (92 :: 48 :: x :: ds) (postorderL forest)).map
          (fun e => runEvents pegTable e BState.init) = some (.ok st) ∧
        st = (if isCodePoint v = true then ⟨[.leaf .character [v]], 0, []⟩
              else ⟨[.leaf .character [0xFFFD]], 0, [hexErrMsg ds]⟩) ∧
        st.finish = (if isCodePoint v = true then .ok [.leaf .character [v]]
                     else .invalid [hexErrMsg ds]) := by
  obtain ⟨v, hv⟩ := digitsVal_hex ds 0 hall
  obtain ⟨evs, he⟩ := escape_hex_eval x hx ds hne hall
  refine ⟨v, _, evs, hv, he, _, escape_hex_actions x ds v hne hv, rfl, ?_⟩
  cases isCodePoint v <;> rfl

/-- The model front end accepts only texts of the PEG language of the regenerated grammar, rejects
    as syntax errors only texts outside it, and reports builder errors (`.invalid`) only for texts
    inside it. -/
theorem C10_model_sound (text : List Sym) (fuel : Nat) :
    (∀ top, frontModel text fuel = .ok top →
      ∃ p forest evs, Eval pegLinked.G (fun _ _ => false) text (.name pegEntry) 0 (.ok p forest) evs) ∧
    (frontModel text fuel = .syntaxError →
      ∃ evs, Eval pegLinked.G (fun _ _ => false) text (.name pegEntry) 0 .fail evs) ∧
    (∀ errs, frontModel text fuel = .invalid errs →
      ∃ p forest evs, Eval pegLinked.G (fun _ _ => false) text (.name pegEntry) 0 (.ok p forest) evs) := by
  rw [frontModel_eq]
  exact frontCore_sound _ _ _ _ _ _

/-- The fuel only decides WHETHER the model front end answers, never WHAT it answers. -/
theorem C10_fuel_irrelevant (text : List Sym) (f1 f2 : Nat)
    (h1 : frontModel text f1 ≠ .unsupported "out of fuel")
    (h2 : frontModel text f2 ≠ .unsupported "out of fuel") :
    frontModel text f1 = frontModel text f2 := by
  rw [frontModel_eq] at h1 h2
  rw [frontModel_eq, frontModel_eq]
  exact frontCore_fuel_irrelevant _ _ _ _ _ _ _ h1 h2

#print axioms C10_literal_case
#print axioms C10_dquote_ci
#print axioms C10_class
#print axioms C10_negclass
#print axioms C10_ci_class
#print axioms C10_arrows
#print axioms C10_comments
#print axioms C10_imports
#print axioms C10_actions
#print axioms C10_precedence
#print axioms C10_hex_no_codepoint_reported
#print axioms C10_rejects
#print axioms C10_precedence_chain
#print axioms C10_list_rules
#print axioms C10_builder_addList_flatten
#print axioms C10_builder_never_panics_on_balanced
#print axioms C10_builder_caseFold
#print axioms C10_caseFold_char
#print axioms C10_caseFold_ascii
#print axioms C10_caseFold_raw_all
#print axioms C10_case_table
#print axioms C10_escape_hex_spec
#print axioms C10_escape_octal_spec
#print axioms C10_escape_hex_all
#print axioms C10_model_sound
#print axioms C10_fuel_irrelevant

end PegVerif
