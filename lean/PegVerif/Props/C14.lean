import PegVerif.Proofs.SchedLemmas
import PegVerif.Generated.Footprints
/-
  C14 — independent parser instances do not interfere under concurrency (logic core + facts
  regenerated from the source).

  `Generated/Footprints.lean` is rewritten by `harness/cmd/facts` on every run from parsers that the
  peg built from the CURRENT source generates (default, `-noast`, `-inline -switch`) and from the raw
  `tree/peg.go.tmpl`.  The only package-level variable of a generated parser is the name table
  `rul3s`; it is never assigned, indexed on the left of an assignment or has its address taken; the
  runtime starts no goroutine, uses no channel and does not import `sync`.  All parse state lives in
  locals of `Init` captured by the closures stored in the receiver, or in the receiver itself.

  Proved: a product of confined components is non-interfering for every schedule
  (`Sched.product_noninterference`), instantiated under the facts above.

  ASSUMED
  1. Go's memory model (DRF-SC) — as for C09.
  2. Soundness of the extractor and the reading of its facts: "no write to a package-level variable,
     no goroutine/channel/sync" implies that a step of instance `i` (Init / Parse / Execute / print
     on receiver `i`) reads and writes only the memory reachable from receiver `i` and read-only
     package data (`Confined`), provided the CALLER gives every instance its own receiver, its own
     user fields and does not share mutable data through actions or the `io.Writer` passed to
     `WriteSyntaxTree`.  This is the hypothesis `sound` below; it is supported dynamically by
     `harness/cmd/racex` (32 goroutines under the race detector, results equal to solo runs).
-/
namespace PegVerif
open Sched Generated

/-- The only package-level variable of generated parsers is the rule-name table. -/
theorem C14_only_name_table : tmplPkgVars = ["rul3s"] := by decide

/-- It is never written (nor is its address taken). -/
theorem C14_no_pkg_writes : tmplPkgVarWrites = [] := by decide

/-- The runtime starts no goroutine and uses no channel or `sync` primitive. -/
theorem C14_no_goroutines : tmplGoStmts = [] := by decide

/-- Instances are confined: for every interleaving of the operations of any number of instances, the
    state of instance `i` at the end is the one obtained by running only `i`'s operations, from any
    global state with the same `i`-part. -/
theorem C14_instances_confined {ι S : Type} [DecidableEq ι] {g : PSys ι S}
    (sound : tmplPkgVarWrites = [] → tmplGoStmts = [] → Confined g)
    (i : ι) (s : List ι) (σ τ : ι → S) (h : σ i = τ i) :
    prun g s σ i = prun g (s.filter (· = i)) τ i :=
  product_noninterference (sound C14_no_pkg_writes C14_no_goroutines) i s σ τ h

/-- The same with the solo run made explicit. -/
theorem C14_instances_solo {ι S : Type} [DecidableEq ι] {g : PSys ι S}
    (sound : tmplPkgVarWrites = [] → tmplGoStmts = [] → Confined g) (i : ι) :
    ∃ f : S → S, ∀ (s : List ι) (σ : ι → S), prun g s σ i = iter f (s.count i) (σ i) :=
  ⟨_, prun_eq_iter (sound C14_no_pkg_writes C14_no_goroutines) i⟩

/-- With the shared package data (`rul3s`, constants) explicit: since nothing writes it, it is
    unchanged by every schedule and each instance computes its solo run against it. -/
theorem C14_instances_confined_ro {ι C S : Type} [DecidableEq ι] {g : RSys ι C S}
    (sound : tmplPkgVarWrites = [] → tmplGoStmts = [] → ∀ i c x, (g i c x).1 = c)
    (i : ι) (s : List ι) (c : C) (σ : ι → S) :
    (rrun g s (c, σ)).1 = c ∧
    (rrun g s (c, σ)).2 i = iter (fun x => (g i c x).2) (s.count i) (σ i) :=
  product_noninterference_ro (sound C14_no_pkg_writes C14_no_goroutines) i s c σ

/-! ### Non-vacuity -/

namespace C14Example

/-- Three "parser instances"; the state of one is `(position, tokenIndex)`; the shared read-only
    table is a number every step adds to `tokenIndex`. -/
def g : RSys (Fin 3) Nat (Nat × Nat) := fun i c x => (c, (x.1 + 1 + i.val, x.2 + c))

example : (rrun g [0, 2, 1, 2, 0, 2] (10, fun _ => (0, 0))).2 2 = (9, 30) := by decide

example : (rrun g [0, 2, 1, 2, 0, 2] (10, fun _ => (0, 0))).2 2 =
    iter (fun x => (g 2 10 x).2) 3 (0, 0) :=
  (C14_instances_confined_ro (g := g) (fun _ _ _ _ _ => rfl) 2 _ 10 _).2

/-- The product form, hypotheses discharged for a concrete system. -/
def p : PSys (Fin 3) (Nat × Nat) := fun i σ j => if j = i then ((σ i).1 + 1, (σ i).2 + 2) else σ j

theorem p_confined : Confined p := confined_own fun _ x => (x.1 + 1, x.2 + 2)

example : prun p [0, 2, 1, 2, 0, 2] (fun _ => (0, 0)) 2 = prun p [2, 2, 2] (fun _ => (0, 0)) 2 :=
  C14_instances_confined (fun _ _ => p_confined) 2 _ _ _ rfl

/-- Teeth: with a shared mutable cell (what a package-level `position` would be) the result of one
    instance depends on the others — confinement is a real hypothesis. -/
def bad : RSys (Fin 2) Nat Nat := fun _ c x => (c + 1, x + c)

example : (rrun bad [0, 1] (0, fun _ => 0)).2 1 ≠ (rrun bad [1] (0, fun _ => 0)).2 1 := by decide

end C14Example

end PegVerif

#print axioms PegVerif.C14_only_name_table
#print axioms PegVerif.C14_no_pkg_writes
#print axioms PegVerif.C14_no_goroutines
#print axioms PegVerif.C14_instances_confined
#print axioms PegVerif.C14_instances_solo
#print axioms PegVerif.C14_instances_confined_ro
#print axioms PegVerif.Sched.product_noninterference
