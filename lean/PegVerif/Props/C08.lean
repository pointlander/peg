import PegVerif.Proofs.LabelLemmas
/-
  C08 — every accepted grammar yields valid Go.  The proof carries the generator's *hygiene logic*
  (Go's type checker, `go/parser` and `go/printer` are oracles in the tie, they are not modelled):
  labels are defined at most once, so no `goto` can be ambiguous; the dry pass and the real pass
  number labels identically and print the same jumps, so the table `labels[n]` that the dry pass fills
  is the right one for the real pass: `printLabel` prints `ln:` exactly when the real pass jumps to
  `ln`.  (The conclusion for the emitted file — no "label defined and not used", no jump to a missing
  label — also needs that a label site exists for every target; that is not stated here, the tie's
  `go build` of every emitted file reports either.)
-/
namespace PegVerif

/-- Labels of one emitted rule function are pairwise distinct (no "label lN already defined"). -/
theorem C08_labels_unique (env : CEnv) (r : Rule) (b : Expr) (ko : Nat) (st : CSt) (h : ko < st.label) :
    Uniq (ruleFunc env r b ko st).1 :=
  ruleFunc_uniq env r b ko st h

/-- The counters after compiling an expression do not depend on which labels are printed, on the
    failure label or on the parent-detect flags: the dry pass and the real pass agree on every label
    number. -/
theorem C08_dry_real_same_numbering (env env' : CEnv) (e : Expr) (ko ko' : Nat) (pd pmk pd' pmk' : Bool)
    (st : CSt) : (compile env e ko pd pmk st).st = (compile env' e ko' pd' pmk' st).st :=
  compile_st_indep env env' e ko ko' pd pmk pd' pmk' st

/-- Without `-switch` nodes the two passes print the same jumps, so `labels[n]` recorded by the dry
    pass is exactly "the real pass prints some jump to ln". -/
theorem C08_dry_real_same_jumps (env env' : CEnv) (ha : env.always = env'.always) (e : Expr) (ko : Nat)
    (pd pmk : Bool) (st : CSt) (h : e.noUalt = true) :
    jumps (compile env e ko pd pmk st).code = jumps (compile env' e ko pd pmk st).code := by
  have _ := h  -- not needed: see `C08_dry_real_same_jumps_switch`
  exact compile_jumps_eq env env' ha e ko pd pmk st

/-- With `-switch` nodes as well (any expression): a label is jumped to in the real pass exactly
    when it is in the dry pass, so `printLabel` prints `ln:` exactly when `ln` is jumped to.  (Before
    the fix of F-C08-2 the dry pass compiled case bodies without the parentDetect flags and only
    the inclusion real ⊆ dry held: "label lN defined and not used".) -/
theorem C08_dry_real_same_jumps_switch (env env' : CEnv) (ha : env.always = env'.always) (e : Expr)
    (ko : Nat) (pd pmk : Bool) (st : CSt) (l : Nat) :
    l ∈ jumps (compile env e ko pd pmk st).code ↔ l ∈ jumps (compile env' e ko pd pmk st).code :=
  by rw [compile_jumps_eq env env' ha]

/-- Switch labels (`case` entry points and the end of the `switch`) are unique per function. -/
theorem C08_switch_labels_unique (env : CEnv) (r : Rule) (b : Expr) (ko : Nat) (st : CSt) :
    SUniq (ruleFunc env r b ko st).1 :=
  ruleFunc_suniq env r b ko st

end PegVerif

#print axioms PegVerif.C08_dry_real_same_jumps_switch
#print axioms PegVerif.C08_switch_labels_unique
#print axioms PegVerif.C08_labels_unique
#print axioms PegVerif.C08_dry_real_same_numbering
#print axioms PegVerif.C08_dry_real_same_jumps
