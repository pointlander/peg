import PegVerif.Props.C03
/-
  C17 — bootstrap chain and self-regeneration.  The byte-for-byte part is a finite computation that
  the check executes (`bootstrap.bash` in a scratch copy).  The part that quantifies over all grammar
  texts — "a front end regenerated from peg.peg under any option combination builds the same rule tree"
  — is an instance of the refinement theorem: a front end is a generated parser of the grammar
  `peg.peg`, the tree it builds is a function of the token list and the input (`Execute`, C04), and
  by C01/C03 verdict and token list are those of the PEG semantics, whatever program satisfying
  `World` was emitted.
-/
namespace PegVerif

variable {cfg : Cfg} {G : Grammar} {inp : List Sym}

/-- Two emitted programs for the same grammar (e.g. the checked-in front end and a regenerated one)
    agree on verdict, end position and token list for every input on which the semantics is defined
    — hence `Execute` drives the tree builder with the same action sequence. -/
theorem C17_frontends_agree {P1 P2 : Program} {env1 env2 : CEnv}
    (h1 : World P1 cfg env1 G inp) (h2 : World P2 cfg env2 G inp) {n c1 c2 res evs o1 o2 s1 s2}
    (f1 : P1.find n = some c1) (f2 : P2.find n = some c2)
    (hev : Eval G cfg.rho inp (.name n) 0 res evs)
    (r1 : Exec P1 cfg inp c1 0 St.init Frame.empty (o1, s1))
    (r2 : Exec P2 cfg inp c2 0 St.init Frame.empty (o2, s2)) :
    o1 = o2 ∧ s1.pos = s2.pos ∧ (o1 = .ret true → s1.tree.take s1.ti = s2.tree.take s2.ti) := by
  obtain ⟨ho, hp, _, htoks, _⟩ := runs_agree h1 h2 afterReset_init afterReset_init f1 f2 hev hev r1 r2
  exact ⟨ho, hp, fun _ => htoks⟩

end PegVerif

#print axioms PegVerif.C17_frontends_agree
