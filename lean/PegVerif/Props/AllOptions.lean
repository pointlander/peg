import PegVerif.Model.AllOptionsDef
import PegVerif.Proofs.FastCheck
import PegVerif.Proofs.Kacts
import PegVerif.Proofs.Implements
import PegVerif.Props.C02Switch
import PegVerif.Props.C02InlineSwitch
import PegVerif.Props.C07
import PegVerif.Props.C07Switch
import PegVerif.Props.C07Inline
/-
  Summary over all eight option sets of peg (`-inline`, `-switch`, `-noast` and their combinations).

  `G` is the linked grammar, `G'` the grammar the emission works on (`G' = optimise G` with
  `-switch`, `G' = G` otherwise); the emitted program is `compileAll o G'`, the default parser is
  `compileAll dfltOpts G`.  One decidable hypothesis, `theoremApplies o G G'`
  (`Model/AllOptionsDef.lean`): the default parser's hypotheses on `G` (`WFB`, `GrammarOK`,
  `LinkedOK`, plain bodies) and the side condition of the option set:

      ''    Props/C01.lean              –
      i     Props/C02.lean              GrammarOKI G
      s     Props/C02Switch.lean        switchSafe G G'
      is    Props/C02InlineSwitch.lean  inlineSwitchSafe G G'
      n     Props/C07.lean              GrammarOKN (Kacts G) G
      in    Props/C07Inline.lean        inlineNoastSafeK (Kacts G) G
      sn    Props/C07Switch.lean        noastSwitchSafeK (Kacts G') G G'
      isn   Props/C07Inline.lean        inlineNoastSwitchSafeK (Kacts G') G G'

  and where each row is established (`option_emission`):

            World / WorldNS of the program   Bridge G GX                   end-to-end theorem
      ''    compileAll_world'                Bridge.self                   C01_generated_parser
      i     compileAll_world_inline'         Bridge.self, .expand          C02_inline_generated_parser
      s     switchSafe_world                 Bridge.switch                 C02_switch_parser
      is    inlineSwitchSafe_world           Bridge.switch, .expand        C02_inline_switch_parser
      n     compileAll_worldN'               Bridge.self                   C07_generated_parser
      in    inline_noast_world               Bridge.self, .expand          C07_inline_generated_parser
      sn    noast_switch_world               noast_switch_bridge           C07_switch_generated_parser
      isn   inline_noast_switch_world        inline_noast_switch_bridge    C07_inline_switch_generated_parser

  `theoremApplies` EVALUATES cheap versions of these checkers (`Model/FastCheckDef.lean`: the
  reachability closure, the reference counts and the table of the rules that get a function are
  computed once and shared by all rules), proved EQUAL to the ones of the table (`optionSetOK_eq`).

  The `-noast` rows use the kit `Kacts` (`Model/KactsDef.lean`: of the machine's trace, the entries
  of actions are compared and the entries of state-change statements are not), so grammars WITH
  state-change statements are covered — the summary theorems speak about verdict, position and (in
  AST mode) tokens, for which the refinement theorems hold with any kit.  A statement whose code
  coincides with the code of an action is rejected.  The `Kall` instances (no statement at all)
  imply the rows above (`optionSetOK_of_Kall`).

  Nothing is proved anew about the emission: each case is the `World` lemma of the file named in
  the table (`option_emission`), and `implements_ast` / `implements_noast` do the rest for all eight.
-/
namespace PegVerif
open Noast

/-! ### The parts of `theoremApplies` -/

/-- `defaultParserOK` in terms of the checker the theorems of `Props/C01.lean` are stated with. -/
theorem defaultParserOK_eq (G : Grammar) :
    defaultParserOK G = (WFB G && GrammarOK G && LinkedOK G && G.rules.all (fun r => r.body.plain)) := by
  simp only [defaultParserOK, GrammarOKfast_eq]

/-- The default parser's hypotheses on `G`, as `Props/C01.lean` states them, and the side condition
    of the option set. -/
theorem theoremApplies_parts {o : Opts} {G G' : Grammar} (h : theoremApplies o G G' = true) :
    (WFB G = true ∧ GrammarOK G = true ∧ LinkedOK G = true ∧ G.plain) ∧ optionSetOK o G G' = true := by
  simp only [theoremApplies, defaultParserOK_eq, Bool.and_eq_true] at h
  obtain ⟨⟨⟨⟨hwf, hG⟩, hL⟩, hplain⟩, hS⟩ := h
  exact ⟨⟨hwf, hG, hL, Grammar.plain_of_all hplain⟩, hS⟩

/-- The default option set asks for nothing beyond the default parser's hypotheses. -/
theorem theoremApplies_dflt {o : Opts} {G G' : Grammar} (h : theoremApplies o G G' = true) :
    theoremApplies dfltOpts G G = true := by
  simp only [theoremApplies, Bool.and_eq_true] at h ⊢
  exact ⟨h.1, rfl⟩

/-- **The table of the header is what `optionSetOK` computes**: the cheap checkers it evaluates are
    equal to the side conditions the per-option theorems are stated with. -/
theorem optionSetOK_eq (o : Opts) (G G' : Grammar) :
    optionSetOK o G G' =
      match o.inline, o.switch, o.ast with
      | false, false, true  => true
      | true,  false, true  => GrammarOKI G
      | false, true,  true  => switchSafe G G'
      | true,  true,  true  => inlineSwitchSafe G G'
      | false, false, false => GrammarOKN (Kacts G) G
      | true,  false, false => inlineNoastSafeK (Kacts G) G
      | false, true,  false => noastSwitchSafeK (Kacts G') G G'
      | true,  true,  false => inlineNoastSwitchSafeK (Kacts G') G G' := by
  obtain ⟨i, s, a⟩ := o
  cases i <;> cases s <;> cases a <;>
    simp only [optionSetOK, GrammarOKIfast_eq, switchSafeFast_eq, inlineSwitchSafeFast_eq, noastSafeA,
      inlineNoastSafeA, noastSwitchSafeA, noastSwitchSafeKfast_eq, inlineNoastSwitchSafeA]

/-- The `Kall` instances of the `-noast` side conditions (for grammars without any state-change
    statement) imply the `Kacts` rows of the table. -/
theorem optionSetOK_of_Kall (o : Opts) (G G' : Grammar)
    (h : (match o.inline, o.switch, o.ast with
      | false, false, true  => true
      | true,  false, true  => GrammarOKI G
      | false, true,  true  => switchSafe G G'
      | true,  true,  true  => inlineSwitchSafe G G'
      | false, false, false => GrammarOKN (Kall G) G
      | true,  false, false => inlineNoastSafe G
      | false, true,  false => noastSwitchSafe G G'
      | true,  true,  false => inlineNoastSwitchSafe G G') = true) :
    optionSetOK o G G' = true := by
  match o, h with
  | ⟨false, false, true⟩,  _ => rfl
  | ⟨true,  false, true⟩,  h => exact (GrammarOKIfast_eq G).trans h
  | ⟨false, true,  true⟩,  h => exact (switchSafeFast_eq G G').trans h
  | ⟨true,  true,  true⟩,  h => exact (inlineSwitchSafeFast_eq G G').trans h
  | ⟨false, false, false⟩, h => exact noastSafeA_of_Kall h
  | ⟨true,  false, false⟩, h => exact inlineNoastSafeA_of_Kall h
  | ⟨false, true,  false⟩, h => exact noastSwitchSafeA_of_Kall h
  | ⟨true,  true,  false⟩, h => exact inlineNoastSwitchSafeA_of_Kall h

theorem mem_allOpts (o : Opts) : o ∈ allOpts := by
  obtain ⟨i, s, a⟩ := o
  cases i <;> cases s <;> cases a <;> simp [allOpts]

/-! ### Every option set against the PEG semantics of the linked grammar -/

/-- What a parse shows of the outcome `res` in either mode: the verdict and, in AST mode, exactly
    the tokens of the derivation forest. -/
structure RunSpec (ast : Bool) (res : Res) (out : Outcome) (t' : St) : Prop
    extends Verdict res 0 out t' where
  toks : ast = true → t'.tree.take t'.ti = res.toks

/-- The conclusion shared by all eight cases: the semantics of the LINKED grammar `G` assigns rule
    `n` an outcome at position 0, a run of the emitted function from a fresh parser exists, and
    every run from a post-`Reset` state is the one that outcome prescribes. -/
def ParserSpec (o : Opts) (G G' : Grammar) (cfg : Cfg) (inp : List Sym) (n : String) (cr : Code) : Prop :=
  ∃ res evs, Eval G cfg.rho inp (.name n) 0 res evs ∧
    (∃ out t', Exec (compileAll o G') cfg inp cr 0 St.init Frame.empty (out, t')) ∧
    ∀ t out t', AfterReset t → Exec (compileAll o G') cfg inp cr 0 t Frame.empty (out, t') →
      RunSpec o.ast res out t'

/-- What the side condition of an option set establishes: the `World` (AST mode) or `WorldNS`
    (`-noast`, for some kit) of the emitted program against an emission grammar `GX` that has the
    outcomes of `G`. -/
inductive Emission (o : Opts) (G G' : Grammar) (cfg : Cfg) (inp : List Sym) : Prop
  | ast {env GX} (hast : o.ast = true) (hW : World (compileAll o G') cfg env GX inp) (hB : Bridge G GX)
  | noast {K env GX} (hast : o.ast = false) (hW : WorldNS K (compileAll o G') cfg env GX inp)
      (hB : Bridge G GX)

theorem Emission.spec {o : Opts} {G G' : Grammar} {cfg : Cfg} {inp : List Sym}
    (h : Emission o G G' cfg inp) {n cr} (hfind : (compileAll o G').find n = some cr) :
    ParserSpec o G G' cfg inp n cr := by
  cases h with
  | ast hast hW hB =>
    obtain ⟨res, evs, _, hev, _, hall⟩ := implements_ast hW hB hfind
    exact ⟨res, evs, hev, (hall _ afterReset_init).1, fun t out t' ht hrun =>
      ⟨((hall t ht).2 out t' hrun).toVerdict, fun _ => ((hall t ht).2 out t' hrun).toks⟩⟩
  | noast hast hW hB =>
    obtain ⟨res, evs, _, hev, _, hall⟩ := implements_noast hW hB hfind (Nat.zero_le _)
    refine ⟨res, evs, hev, (hall St.init rfl).1, fun t out t' ht hrun => ?_⟩
    refine ⟨((hall t ht.pos).2 out t' hrun).verdict, fun e => ?_⟩
    rw [hast] at e
    cases e

/-- The eight option sets: the `World` lemma of the file named in the table, and `Bridge.self` /
    `Bridge.switch`, expanded under `-inline`.  The `-noast` rows hold for any kit; here `Kacts`. -/
theorem option_emission (o : Opts) (G G' : Grammar) (cfg : Cfg) (inp : List Sym)
    (happ : theoremApplies o G G' = true) (hG' : o.switch = false → G' = G)
    (hcfg : cfg.ast = o.ast) (hinp : ∀ c ∈ inp, c ≠ END) : Emission o G G' cfg inp := by
  obtain ⟨⟨hwf, hG, hL, hplain⟩, hS⟩ := theoremApplies_parts happ
  rw [optionSetOK_eq] at hS
  match o, hS, hG', hcfg with
  | ⟨false, false, true⟩, _, hG', hcfg =>
    obtain rfl : G' = G := hG' rfl
    exact .ast rfl (compileAll_world' rfl rfl rfl hcfg hinp hG hL hplain) (Bridge.self hwf)
  | ⟨true, false, true⟩, hS, hG', hcfg =>
    obtain rfl : G' = G := hG' rfl
    exact .ast rfl (compileAll_world_inline' rfl rfl rfl hcfg hinp hS hL hplain) ((Bridge.self hwf).expand _)
  | ⟨false, true, true⟩, hS, _, hcfg =>
    obtain ⟨hW, hB⟩ := switchSafe_world G' ⟨false, true, true⟩ cfg inp hwf hS rfl rfl hcfg hinp
    exact .ast rfl hW hB
  | ⟨true, true, true⟩, hS, _, hcfg =>
    obtain ⟨hW, hB⟩ := inlineSwitchSafe_world G' ⟨true, true, true⟩ cfg inp hwf hS rfl rfl hcfg hinp
    exact .ast rfl hW hB
  | ⟨false, false, false⟩, hS, hG', hcfg =>
    obtain rfl : G' = G := hG' rfl
    exact .noast rfl (compileAll_worldN' rfl rfl rfl hcfg hinp hG hS hplain).toS (Bridge.self hwf)
  | ⟨true, false, false⟩, hS, hG', hcfg =>
    obtain rfl : G' = G := hG' rfl
    exact .noast rfl (inline_noast_world _ _ _ cfg inp hS rfl rfl hcfg hinp) ((Bridge.self hwf).expand _)
  | ⟨false, true, false⟩, hS, _, hcfg =>
    exact .noast rfl (noast_switch_world _ G G' _ cfg inp hS rfl rfl hcfg hinp)
      (noast_switch_bridge hwf hS)
  | ⟨true, true, false⟩, hS, _, hcfg =>
    exact .noast rfl (inline_noast_switch_world _ G G' _ cfg inp hS rfl rfl hcfg hinp)
      (inline_noast_switch_bridge hwf hS _)

/-- **Every option set against the PEG semantics.**  Under `theoremApplies o G G'` (memoisation on or
    off, any semantic predicates), for every input of valid runes and every rule `n` with a function
    in `compileAll o G'`: the PEG semantics of the linked grammar `G` assigns `n` an outcome at
    position 0, a run of the function from a fresh parser exists, and every run from a post-`Reset`
    state never panics, returns true exactly on `.ok` — then at the end of the matched prefix and,
    in AST mode, with exactly the tokens of the derivation forest — and false at position 0 on
    `.fail`. -/
theorem option_parser_spec (o : Opts) (G G' : Grammar) (cfg : Cfg) (inp : List Sym)
    (happ : theoremApplies o G G' = true) (hG' : o.switch = false → G' = G)
    (hcfg : cfg.ast = o.ast) (hinp : ∀ c ∈ inp, c ≠ END)
    {n cr} (hfind : (compileAll o G').find n = some cr) : ParserSpec o G G' cfg inp n cr :=
  (option_emission o G G' cfg inp happ hG' hcfg hinp).spec hfind

/-! ### Every option set against the default parser -/

/-- **All option sets give the default parser's verdict.**  Under `theoremApplies o G G'`, for every
    input of valid runes and every rule `n` that has a function in BOTH the default program
    `compileAll dfltOpts G` and the program `compileAll o G'`: every run of the one and every run of
    the other, each from a fresh or post-`Reset` state, return the same outcome, neither panics,
    they end at the same position, and — when the option set keeps the AST — a successful parse
    records the same token sequence.  The two configurations share the semantic predicates;
    memoisation may be on or off independently. -/
theorem all_options_same_verdict (o : Opts) (G G' : Grammar) (cfg cfg' : Cfg) (inp : List Sym)
    (happ : theoremApplies o G G' = true) (hG' : o.switch = false → G' = G)
    (hcfg : cfg.ast = true) (hcfg' : cfg'.ast = o.ast) (hrho : cfg.rho = cfg'.rho)
    (hinp : ∀ c ∈ inp, c ≠ END)
    {n cr cr'} (hfind : (compileAll dfltOpts G).find n = some cr)
    (hfind' : (compileAll o G').find n = some cr')
    {s t out out' s' t'} (hs : AfterReset s) (ht : AfterReset t)
    (hrun : Exec (compileAll dfltOpts G) cfg inp cr 0 s Frame.empty (out, s'))
    (hrun' : Exec (compileAll o G') cfg' inp cr' 0 t Frame.empty (out', t')) :
    out = out' ∧ out ≠ .panic ∧ out' ≠ .panic ∧ s'.pos = t'.pos ∧
      (o.ast = true → out = .ret true → s'.tree.take s'.ti = t'.tree.take t'.ti) := by
  obtain ⟨res, evs, hev, _, hall⟩ :=
    option_parser_spec dfltOpts G G cfg inp (theoremApplies_dflt happ) (fun _ => rfl) hcfg hinp hfind
  obtain ⟨res', evs', hev', _, hall'⟩ := option_parser_spec o G G' cfg' inp happ hG' hcfg' hinp hfind'
  obtain ⟨rfl, _⟩ := Eval_det hev (hrho ▸ hev')
  have a := hall s out s' hs hrun
  have b := hall' t out' t' ht hrun'
  obtain ⟨ho, hp⟩ := a.toVerdict.agree b.toVerdict
  exact ⟨ho, a.ne_panic, b.ne_panic, hp, fun ha _ => (a.toks rfl).trans (b.toks ha).symm⟩

/-- … in particular from two fresh parsers. -/
theorem all_options_same_verdict_fresh (o : Opts) (G G' : Grammar) (cfg cfg' : Cfg) (inp : List Sym)
    (happ : theoremApplies o G G' = true) (hG' : o.switch = false → G' = G)
    (hcfg : cfg.ast = true) (hcfg' : cfg'.ast = o.ast) (hrho : cfg.rho = cfg'.rho)
    (hinp : ∀ c ∈ inp, c ≠ END)
    {n cr cr'} (hfind : (compileAll dfltOpts G).find n = some cr)
    (hfind' : (compileAll o G').find n = some cr')
    {out out' s' t'}
    (hrun : Exec (compileAll dfltOpts G) cfg inp cr 0 St.init Frame.empty (out, s'))
    (hrun' : Exec (compileAll o G') cfg' inp cr' 0 St.init Frame.empty (out', t')) :
    out = out' ∧ out ≠ .panic ∧ out' ≠ .panic ∧ s'.pos = t'.pos ∧
      (o.ast = true → out = .ret true → s'.tree.take s'.ti = t'.tree.take t'.ti) :=
  all_options_same_verdict o G G' cfg cfg' inp happ hG' hcfg hcfg' hrho hinp hfind hfind'
    afterReset_init afterReset_init hrun hrun'

/-- **Termination for all option sets**: under the same hypotheses (only the function of `n` in the
    option-set program is needed) a run of the option-set parser's function from a fresh parser
    exists. -/
theorem all_options_run_exists (o : Opts) (G G' : Grammar) (cfg' : Cfg) (inp : List Sym)
    (happ : theoremApplies o G G' = true) (hG' : o.switch = false → G' = G)
    (hcfg' : cfg'.ast = o.ast) (hinp : ∀ c ∈ inp, c ≠ END)
    {n cr'} (hfind' : (compileAll o G').find n = some cr') :
    ∃ out' t', Exec (compileAll o G') cfg' inp cr' 0 St.init Frame.empty (out', t') := by
  obtain ⟨_, _, _, hex, _⟩ := option_parser_spec o G G' cfg' inp happ hG' hcfg' hinp hfind'
  exact hex

/-! ### Non-vacuity

  Linked grammar (shape of the examples in `Props/C07Inline.lean`, plus a rule with two references):

      S       <- (A 'b' / B 'y' / 'd' / [g-k] 'z') C C? !.
      A       <- 'a' <'x'> Action0
      B       <- [b-c]
      C       <- 'c'
      Action0 <- { A0 }

  * the 4-way choice of `S` is rewritten by `optimise` into a switch;
  * `A`, `B`, `Action0` have one reference, so `-inline` compiles them in place and emits no
    function for them; `C` has two references and keeps its function, `S` is emitted with label 0
    and keeps its function — both have a function in every one of the eight programs;
  * `A` carries a capture and an action, which `-noast` executes inline. -/
namespace AllOptionsExample

def G : Grammar := ⟨[
  ⟨"S", 0, .ipush (.seq [
      .alt [.seq [.name "A", .chr 98], .seq [.name "B", .chr 121], .chr 100, .seq [.rng 103 107, .chr 122]],
      .name "C", .query (.name "C"), .peekNot .dot]) "S"⟩,
  ⟨"A", 1, .ipush (.seq [.chr 97, .push (.chr 120) "PegText", .name "Action0"]) "A"⟩,
  ⟨"B", 2, .ipush (.rng 98 99) "B"⟩,
  ⟨"C", 3, .ipush (.chr 99) "C"⟩,
  ⟨"Action0", 4, .ipush (.act "A0") "Action0"⟩]⟩

/-- What the modelled optimiser (`optimise` = `optimizeAlternates`) makes of `G`. -/
def Gsw : Grammar := (optimise G).toOption.getD G

/-- The emission grammar of an option set. -/
def emitG (o : Opts) : Grammar := if o.switch then Gsw else G

/-- **Non-vacuity**: `theoremApplies` holds for all eight option sets, with the OUTPUT OF THE
    MODELLED OPTIMISER as emission grammar of the four option sets with `-switch` (kernel-checked,
    through `optimise`). -/
theorem applies_all : allOpts.all (fun o => theoremApplies o G (emitG o)) = true := by decide +kernel

/-- … so `all_options_same_verdict` and `all_options_run_exists` apply to this grammar under every
    option set (`emitG o` is `G` without `-switch`, as the theorems ask). -/
theorem applies (o : Opts) : theoremApplies o G (emitG o) = true ∧ (o.switch = false → emitG o = G) :=
  ⟨List.all_eq_true.mp applies_all o (mem_allOpts o), fun h => by simp [emitG, h]⟩

/-- The optimiser succeeded and did rewrite the choice of `S` into a switch: `'d'` first, the
    alternatives with `A` and `B` as the cases of 'a' and of 'b','c', `[g-k] 'z'` as default; the
    other rules are untouched (`swMatchL` with no renaming is syntactic equality of the bodies). -/
example : (optimise G).toOption.map (fun g =>
    swMatchL (fun _ => none) (g.rules.map (·.body)) [
      .ipush (.seq [
        .ualt [[(100, 100)], [(97, 97)], [(98, 99)], [(103, 107)]]
          [.chr 100, .seq [.name "A", .chr 98], .seq [.name "B", .chr 121], .seq [.rng 103 107, .chr 122]],
        .name "C", .query (.name "C"), .peekNot .dot]) "S",
      .ipush (.seq [.chr 97, .push (.chr 120) "PegText", .name "Action0"]) "A",
      .ipush (.rng 98 99) "B", .ipush (.chr 99) "C", .ipush (.act "A0") "Action0"] &&
    g.rules.map (fun r => (r.name, r.id)) == G.rules.map (fun r => (r.name, r.id))) = some true := by
  decide +kernel

/-- Which rules have a function: all five without `-inline`; `S` and `C` with `-inline` (`A`, `B`,
    `Action0` are compiled in place).  So `S` and `C` have a function in the default program and in
    every option set's program: the rule `n` of the theorems exists. -/
example : allOpts.map (fun o => (compileAll o (emitG o)).filterMap
      (fun r => if r.code.isSome then some r.name else none)) =
    [["S", "A", "B", "C", "Action0"], ["S", "C"], ["S", "A", "B", "C", "Action0"], ["S", "C"],
     ["S", "A", "B", "C", "Action0"], ["S", "C"], ["S", "A", "B", "C", "Action0"], ["S", "C"]] := by
  decide +kernel

/-- The conditions are not vacuous: a capture that is not named "PegText" is outside the `-noast`
    fragment — the four AST option sets pass, the four `-noast` option sets are rejected. -/
def Gcap : Grammar := ⟨[
  ⟨"S", 0, .ipush (.seq [.push (.chr 97) "Other", .peekNot .dot]) "S"⟩]⟩

example : allOpts.map (fun o => theoremApplies o Gcap ((optimise Gcap).toOption.getD Gcap)) =
    [true, true, true, true, false, false, false, false] := by decide +kernel

/-- … and a left-recursive grammar is rejected for every option set (`WFB`). -/
def Glr : Grammar := ⟨[⟨"S", 0, .ipush (.alt [.seq [.name "S", .chr 97], .chr 98]) "S"⟩]⟩

example : allOpts.map (fun o => theoremApplies o Glr Glr) =
    [false, false, false, false, false, false, false, false] := by decide +kernel

/-- The instance of the summary theorem for this grammar: the default parser and the parser of ANY
    option set, on any input of valid runes, for the rules `S` and `C`. -/
example (o : Opts) (cfg cfg' : Cfg) (inp : List Sym)
    (hcfg : cfg.ast = true) (hcfg' : cfg'.ast = o.ast) (hrho : cfg.rho = cfg'.rho)
    (hinp : ∀ c ∈ inp, c ≠ END)
    {n cr cr'} (hfind : (compileAll dfltOpts G).find n = some cr)
    (hfind' : (compileAll o (emitG o)).find n = some cr')
    {out out' s' t'}
    (hrun : Exec (compileAll dfltOpts G) cfg inp cr 0 St.init Frame.empty (out, s'))
    (hrun' : Exec (compileAll o (emitG o)) cfg' inp cr' 0 St.init Frame.empty (out', t')) :
    out = out' ∧ out ≠ .panic ∧ out' ≠ .panic ∧ s'.pos = t'.pos ∧
      (o.ast = true → out = .ret true → s'.tree.take s'.ti = t'.tree.take t'.ti) :=
  all_options_same_verdict_fresh o G (emitG o) cfg cfg' inp (applies o).1 (applies o).2 hcfg hcfg' hrho
    hinp hfind hfind' hrun hrun'

/-! #### A grammar with state-change statements

  `Gstmt` is `G` with three state-change statements (`.stmt`; under `-noast` each appends its code to
  the machine's trace, like an action, but it is not an event of the semantics):

      S       <- (A 'b' / B !{n++} 'y' / 'd' / [g-k] 'z') !{m = 0} C C? !.
      A       <- 'a' !{k--} <'x'> Action0
      B       <- [b-c]
      C       <- 'c'
      Action0 <- { A0 }

  one in the body of `S`, one inside an alternative that `-switch` turns into a case, one in the
  rule `A` that `-inline` compiles in place.  With the kit `Kall` (every trace entry compared) the
  four `-noast` side conditions reject it; with `Kacts` (`theoremApplies`) all eight option sets are
  covered. -/

def Gstmt : Grammar := ⟨[
  ⟨"S", 0, .ipush (.seq [
      .alt [.seq [.name "A", .chr 98], .seq [.name "B", .stmt "n++", .chr 121], .chr 100,
        .seq [.rng 103 107, .chr 122]],
      .stmt "m = 0", .name "C", .query (.name "C"), .peekNot .dot]) "S"⟩,
  ⟨"A", 1, .ipush (.seq [.chr 97, .stmt "k--", .push (.chr 120) "PegText", .name "Action0"]) "A"⟩,
  ⟨"B", 2, .ipush (.rng 98 99) "B"⟩,
  ⟨"C", 3, .ipush (.chr 99) "C"⟩,
  ⟨"Action0", 4, .ipush (.act "A0") "Action0"⟩]⟩

def GstmtSw : Grammar := (optimise Gstmt).toOption.getD Gstmt

def emitGstmt (o : Opts) : Grammar := if o.switch then GstmtSw else Gstmt

/-- **Non-vacuity with state-change statements**: `theoremApplies` holds for `Gstmt` under all eight
    option sets — in particular the four with `-noast` — with the output of the modelled optimiser
    as emission grammar of the option sets with `-switch`. -/
theorem applies_all_stmt : allOpts.all (fun o => theoremApplies o Gstmt (emitGstmt o)) = true := by
  decide +kernel

theorem applies_stmt (o : Opts) :
    theoremApplies o Gstmt (emitGstmt o) = true ∧ (o.switch = false → emitGstmt o = Gstmt) :=
  ⟨List.all_eq_true.mp applies_all_stmt o (mem_allOpts o), fun h => by simp [emitGstmt, h]⟩

/-- The optimiser did rewrite the choice of `S` (the statement sits inside a case), and the kit is
    what it should be: the one action code is kept, the statement codes are not. -/
example : (GstmtSw.rules.any (fun r => SwitchTests.hasSwitch r.body),
    actionCodes Gstmt, ["A0", "n++", "m = 0", "k--"].map (Kacts GstmtSw).keep) =
    (true, ["A0"], [true, false, false, false]) := by decide +kernel

/-- The `Kall` instances of the four `-noast` side conditions (n, in, sn, isn) all reject `Gstmt`. -/
example : [GrammarOKN (Kall Gstmt) Gstmt, inlineNoastSafe Gstmt, noastSwitchSafe Gstmt GstmtSw,
    inlineNoastSwitchSafe Gstmt GstmtSw] = [false, false, false, false] := by decide +kernel

/-- A statement whose code coincides with the code of an action is still rejected under `-noast`
    (the two trace entries could not be told apart); the four AST option sets pass. -/
def Gclash : Grammar := ⟨[
  ⟨"S", 0, .ipush (.seq [.chr 97, .stmt "A0", .name "Action0", .peekNot .dot]) "S"⟩,
  ⟨"Action0", 1, .ipush (.act "A0") "Action0"⟩]⟩

example : allOpts.map (fun o => theoremApplies o Gclash ((optimise Gclash).toOption.getD Gclash)) =
    [true, true, true, true, false, false, false, false] := by decide +kernel

/-- The instance of the summary theorem for `Gstmt`: the default parser and the parser of ANY option
    set agree on any input of valid runes, for every rule that has a function in both. -/
example (o : Opts) (cfg cfg' : Cfg) (inp : List Sym)
    (hcfg : cfg.ast = true) (hcfg' : cfg'.ast = o.ast) (hrho : cfg.rho = cfg'.rho)
    (hinp : ∀ c ∈ inp, c ≠ END)
    {n cr cr'} (hfind : (compileAll dfltOpts Gstmt).find n = some cr)
    (hfind' : (compileAll o (emitGstmt o)).find n = some cr')
    {out out' s' t'}
    (hrun : Exec (compileAll dfltOpts Gstmt) cfg inp cr 0 St.init Frame.empty (out, s'))
    (hrun' : Exec (compileAll o (emitGstmt o)) cfg' inp cr' 0 St.init Frame.empty (out', t')) :
    out = out' ∧ out ≠ .panic ∧ out' ≠ .panic ∧ s'.pos = t'.pos ∧
      (o.ast = true → out = .ret true → s'.tree.take s'.ti = t'.tree.take t'.ti) :=
  all_options_same_verdict_fresh o Gstmt (emitGstmt o) cfg cfg' inp (applies_stmt o).1 (applies_stmt o).2
    hcfg hcfg' hrho hinp hfind hfind' hrun hrun'

/-- `S` and `C` have a function in every one of the eight programs for `Gstmt`. -/
example : allOpts.all (fun o => ["S", "C"].all (fun n =>
    ((compileAll o (emitGstmt o)).find n).isSome && ((compileAll dfltOpts Gstmt).find n).isSome)) = true := by
  decide +kernel

end AllOptionsExample
end PegVerif

#print axioms PegVerif.option_parser_spec
#print axioms PegVerif.all_options_same_verdict
#print axioms PegVerif.all_options_same_verdict_fresh
#print axioms PegVerif.all_options_run_exists
#print axioms PegVerif.mem_allOpts
#print axioms PegVerif.defaultParserOK_eq
#print axioms PegVerif.optionSetOK_eq
#print axioms PegVerif.optionSetOK_of_Kall
#print axioms PegVerif.AllOptionsExample.applies_all
#print axioms PegVerif.AllOptionsExample.applies
#print axioms PegVerif.AllOptionsExample.applies_all_stmt
#print axioms PegVerif.AllOptionsExample.applies_stmt
