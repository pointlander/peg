-- The model: generator, runtime, component models, and the decidable conditions the theorems are
-- stated with.  Definitions only.  (Exec/ holds the drivers of the executable `pegmodel`.)
import PegVerif.Model.Basic
import PegVerif.Model.Syntax
import PegVerif.Model.Sem
import PegVerif.Model.IR
import PegVerif.Model.Link
import PegVerif.Model.Analysis
import PegVerif.Model.Set
import PegVerif.Model.Optimise
import PegVerif.Model.Compile
import PegVerif.Model.Header
import PegVerif.Model.Machine
import PegVerif.Model.Runes
import PegVerif.Model.WellFormed
import PegVerif.Model.SwitchSafe
import PegVerif.Model.NoastSpec
import PegVerif.Model.Checkers
import PegVerif.Model.Ast
import PegVerif.Model.AstSpec
import PegVerif.Model.Error
import PegVerif.Model.Cli
import PegVerif.Model.Sched
import PegVerif.Model.Diag
-- Regenerated from /repo on every run, and the model of the front end, which rests on two of them.
import PegVerif.Generated.Footprints
import PegVerif.Generated.CaseRanges
import PegVerif.Generated.PegGrammar
import PegVerif.Model.GoUnicode
import PegVerif.Model.Builder
-- The decidable hypotheses of the option-set theorems (definitions only; the driver imports them).
import PegVerif.Model.SafeDef
import PegVerif.Model.FastCheckDef
import PegVerif.Model.KactsDef
import PegVerif.Model.AllOptionsDef
-- Semantics, machine, shape of the emitted code.
import PegVerif.Proofs.CoreLemmas
import PegVerif.Proofs.SyntaxLemmas
import PegVerif.Proofs.SemLemmas
import PegVerif.Proofs.CodeLemmas
import PegVerif.Proofs.MachineLemmas
import PegVerif.Proofs.EventLemmas
import PegVerif.Proofs.CompileLemmas
import PegVerif.Proofs.LabelLemmas
import PegVerif.Proofs.LeadLemmas
-- The refinement theorem and what a run shows.
import PegVerif.Proofs.RefineDefs
import PegVerif.Proofs.RefineMode
import PegVerif.Proofs.RefineCases
import PegVerif.Proofs.RefineAlt
import PegVerif.Proofs.RefineSwitch
import PegVerif.Proofs.Refine
import PegVerif.Proofs.RefineTopDefs
import PegVerif.Proofs.RefineTop
import PegVerif.Proofs.RefineNoastDefs
import PegVerif.Proofs.RefineNoast
import PegVerif.Proofs.RunFacts
-- The semantics alone: totality, CheckAlwaysSucceeds, -switch, -inline.
import PegVerif.Proofs.TotalLemmas
import PegVerif.Proofs.AlwaysLemmas
import PegVerif.Proofs.SwitchLemmas
import PegVerif.Proofs.InlineLemmas
-- A program with the side conditions of the refinement theorem implements the source grammar.
import PegVerif.Proofs.Implements
-- The side conditions of the refinement theorem hold of `compileAll`, per option set; the fast
-- checkers and the kit `Kacts` lose nothing.
import PegVerif.Proofs.WorldLemmas
import PegVerif.Proofs.WorldSwitch
import PegVerif.Proofs.WorldInline
import PegVerif.Proofs.WorldNoast
import PegVerif.Proofs.WorldNoastS
import PegVerif.Proofs.WorldNoastInline
import PegVerif.Proofs.FastCheck
import PegVerif.Proofs.Kacts
-- The parser emitted with -switch, end to end, with its tests.
import PegVerif.Proofs.SwitchParser
-- Component models (ForestLemmas: the derivation forest is well nested; it uses AstLemmas).
import PegVerif.Proofs.RunesLemmas
import PegVerif.Proofs.AstLemmas
import PegVerif.Proofs.ForestLemmas
import PegVerif.Proofs.ErrorLemmas
import PegVerif.Proofs.SetLemmas
import PegVerif.Proofs.CliTable
import PegVerif.Proofs.SchedLemmas
import PegVerif.Proofs.DiagLemmas
import PegVerif.Proofs.DiagLink
import PegVerif.Proofs.DiagTop
import PegVerif.Proofs.DiagUniq
-- The front end: peg.peg run by the model's own semantics.
import PegVerif.Proofs.FrontNumbered
import PegVerif.Proofs.FrontLemmas
import PegVerif.Proofs.FrontHex
import PegVerif.Proofs.FrontFold
-- The properties.
import PegVerif.Props.C01
import PegVerif.Props.C02
import PegVerif.Props.C02Switch
import PegVerif.Props.C02InlineSwitch
import PegVerif.Props.C03
import PegVerif.Props.C04Exec
import PegVerif.Props.C04
import PegVerif.Props.C05Ast
import PegVerif.Props.C05
import PegVerif.Props.C07
import PegVerif.Props.C07Switch
import PegVerif.Props.C07Inline
import PegVerif.Props.C08
import PegVerif.Props.C09
import PegVerif.Props.C10Escapes
import PegVerif.Props.C10
import PegVerif.Props.C11Err
import PegVerif.Props.C11
import PegVerif.Props.C12
import PegVerif.Props.C06
import PegVerif.Props.C13
import PegVerif.Props.C14
import PegVerif.Props.C15
import PegVerif.Props.C16
import PegVerif.Props.C17
import PegVerif.Props.C18
import PegVerif.Props.AllOptions
